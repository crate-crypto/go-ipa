/-
  Bit-level facts for the variable-base MSM: what a word selector reads, what the recoder
  writes, and that reading back the written digits returns them.
-/
import Mathlib.Tactic.Ring
import Mathlib.Tactic.NormNum
import GoIpa.Lemmas.Pippenger
import GoIpa.Lemmas.BitField
namespace GoIpa.PipBits
open GoIpa GoIpa.Bits

/-- value of a 4-limb word vector -/
def num (q : List Nat) : Nat :=
  q.getD 0 0 + 2 ^ 64 * q.getD 1 0 + 2 ^ 128 * q.getD 2 0 + 2 ^ 192 * q.getD 3 0

/-- the `c`-bit window `k` of a number -/
def window (c N k : Nat) : Nat := (N / 2 ^ (k * c)) % 2 ^ c

theorem mask64_eq : mask64 = 2 ^ 64 - 1 := rfl

/-- a width dividing 64 never straddles two words -/
theorem fits_of_dvd (c k : Nat) (h : 64 % c = 0) : k * c - k * c / 64 * 64 + c ≤ 64 := by
  obtain ⟨m, hm⟩ := Nat.dvd_of_mod_eq_zero h
  have e : k * c % 64 = c * (k % m) := by rw [hm, Nat.mul_comm k c, Nat.mul_mod_mul_left]
  have hlt : k % m < m := Nat.mod_lt _ (Nat.pos_of_ne_zero (by rintro rfl; omega))
  have := Nat.mul_le_mul_left c (Nat.succ_le_of_lt hlt)
  rw [Nat.mul_succ, ← hm] at this
  omega

/-- **The selector of chunk `k`**, which starts at bit `k·c = 64·idx + sh`: it addresses word `idx` at
bit `sh`; it is a two-word selector only if the chunk straddles words `idx`, `idx+1 ≤ 3`, and then
the high part is the remaining `sh + c − 64` bits, placed at bit `64 − sh` of the digit; a one-word
selector's chunk fits in its word, or the word is the top one. -/
theorem mkSelector_spec (c k : Nat) (hc : c ≤ 64) :
    ∃ idx sh, k * c = 64 * idx + sh ∧ sh < 64 ∧
      (mkSelector c k).index = idx ∧ (mkSelector c k).shift = sh ∧
      (mkSelector c k).mask = (((1 <<< c) - 1) <<< sh) &&& (2 ^ 64 - 1) ∧
      ((mkSelector c k).multiWord = true → 64 < sh + c ∧ idx < 3 ∧
        (mkSelector c k).maskHigh = 2 ^ (sh + c - 64) - 1 ∧ (mkSelector c k).shiftHigh = 64 - sh) ∧
      ((mkSelector c k).multiWord = false → sh + c ≤ 64 ∨ 3 ≤ idx) := by
  refine ⟨k * c / 64, k * c - k * c / 64 * 64, by omega, by omega, ?_⟩
  have hfit := fits_of_dvd c k
  unfold mkSelector
  simp only
  generalize k * c / 64 = idx at *
  generalize k * c - idx * 64 = sh at *
  split
  · rename_i hm
    simp only [Bool.and_eq_true, decide_eq_true_eq] at hm
    refine ⟨rfl, rfl, rfl, fun _ => ⟨by omega, hm.2, ?_, by simp only; omega⟩, fun h => by simp at h⟩
    simp only [Nat.one_shiftLeft]
    congr 2; omega
  · rename_i hm
    simp only [Bool.and_eq_true, decide_eq_true_eq, not_and, Nat.not_lt] at hm
    refine ⟨rfl, rfl, rfl, fun h => by simp at h, fun _ => ?_⟩
    by_cases hle : sh + c ≤ 64
    · exact Or.inl hle
    · exact Or.inr (hm ⟨fun h => hle (hfit h), by omega⟩)

/-- the form in which `partitionScalars` keeps a scalar and its digits -/
def Words (q : List Nat) : Prop :=
  ∃ o0 o1 o2 o3, q = [o0, o1, o2, o3] ∧ o0 < 2 ^ 64 ∧ o1 < 2 ^ 64 ∧ o2 < 2 ^ 64 ∧ o3 < 2 ^ 64

theorem Words.num_lt {q : List Nat} (h : Words q) : num q < 2 ^ 256 := by
  obtain ⟨o0, o1, o2, o3, rfl, _, _, _, _⟩ := h
  simp only [num, List.getD_cons_zero, List.getD_cons_succ]
  omega

theorem Words.getD {q : List Nat} (h : Words q) (i : Nat) : q.getD i 0 = num q / 2 ^ (64 * i) % 2 ^ 64 := by
  have hlt := h.num_lt
  obtain ⟨o0, o1, o2, o3, rfl, _, _, _, _⟩ := h
  rcases i with _ | _ | _ | _ | i
  all_goals simp only [num, List.getD_cons_zero, List.getD_cons_succ] at hlt ⊢
  · omega
  · omega
  · omega
  · omega
  · rw [Nat.div_eq_of_lt (Nat.lt_of_lt_of_le hlt (Nat.pow_le_pow_right (by omega) (by omega)))]
    rfl

theorem Words.set {q : List Nat} (h : Words q) {i v : Nat} (hi : i < 4) (hv : v < 2 ^ 64) :
    Words (q.set i v) ∧ num (q.set i v) + 2 ^ (64 * i) * q.getD i 0 = num q + 2 ^ (64 * i) * v := by
  obtain ⟨o0, o1, o2, o3, rfl, h0, h1, h2, h3⟩ := h
  rcases i with _ | _ | _ | _ | i
  all_goals simp only [num, List.set_cons_zero, List.set_cons_succ, List.getD_cons_zero, List.getD_cons_succ]
  · exact ⟨⟨_, _, _, _, rfl, hv, h1, h2, h3⟩, by omega⟩
  · exact ⟨⟨_, _, _, _, rfl, h0, hv, h2, h3⟩, by omega⟩
  · exact ⟨⟨_, _, _, _, rfl, h0, h1, hv, h3⟩, by omega⟩
  · exact ⟨⟨_, _, _, _, rfl, h0, h1, h2, hv⟩, by omega⟩
  · omega

theorem limb_eq (s l : Nat) : limb s l = (s / 2 ^ (64 * l)) % 2 ^ 64 := by
  unfold limb; rw [Nat.and_two_pow_sub_one_eq_mod, Nat.shiftRight_eq_div_pow]

theorem limbsOf_words (s : Nat) (hs : s < 2 ^ 256) : Words (limbsOf s) ∧ num (limbsOf s) = s := by
  have hl : ∀ l, limb s l < 2 ^ 64 := fun l => by rw [limb_eq]; exact field_lt s _ 64
  refine ⟨⟨_, _, _, _, rfl, hl 0, hl 1, hl 2, hl 3⟩, ?_⟩
  simp only [num, limbsOf, List.getD_cons_zero, List.getD_cons_succ, limb_eq]
  omega

theorem selectBits_words (c k : Nat) (hc : c ≤ 64) (hk : k * c < 256) {q : List Nat} (hq : Words q) :
    selectBits c q k = window c (num q) k := by
  have hN := hq.num_lt
  obtain ⟨idx, sh, hpos, hsh, hi, hs, hm, htwo, hone⟩ := mkSelector_spec c k hc
  unfold selectBits window
  simp only [hq.getD, hi, hs, hm, hpos]
  generalize num q = N at hN ⊢
  rw [mask_read _ c sh (field_lt N _ 64)]
  cases hmw : (mkSelector c k).multiWord
  · -- one word: the chunk fits in it, or it is the top word
    simp only [Bool.false_eq_true, ↓reduceIte]
    rcases hone hmw with hle | htop
    · exact read_one N idx sh c hle
    · exact read_top N idx sh c (by rw [show idx = 3 by omega]; exact hN)
  · obtain ⟨hgt, _, hmh, hsH⟩ := htwo hmw
    simp only [↓reduceIte, hmh, hsH, Nat.and_two_pow_sub_one_eq_mod, Nat.shiftLeft_eq]
    exact read_two N idx sh c (by omega) hc (by omega)

/-- **What a selector reads.** For every window width `1 ≤ c ≤ 64` and every chunk inside the
256 bits, `selectBits` returns the `c`-bit window of the number at bit `c·k`. -/
theorem selectBits_spec (c k : Nat) (hc1 : 1 ≤ c) (hc : c ≤ 64) (hk : k * c < 256)
    (l0 l1 l2 l3 : Nat) (h0 : l0 < 2 ^ 64) (h1 : l1 < 2 ^ 64) (h2 : l2 < 2 ^ 64) (h3 : l3 < 2 ^ 64) :
    selectBits c [l0, l1, l2, l3] k = (num [l0, l1, l2, l3] / 2 ^ (k * c)) % 2 ^ c :=
  selectBits_words c k hc hk ⟨l0, l1, l2, l3, rfl, h0, h1, h2, h3⟩

theorem selectBits_scalar (c k s : Nat) (hc : c ≤ 64) (hk : k * c < 256) (hs : s < 2 ^ 256) :
    selectBits c (limbsOf s) k = window c s k := by
  rw [selectBits_words c k hc hk (limbsOf_words s hs).1, (limbsOf_words s hs).2]

/-- the two stores of `partitionScalars` for one non-zero digit -/
def writeBits (c k bits : Nat) (out : List Nat) : List Nat :=
  let s := mkSelector c k
  let out := out.set s.index ((out.getD s.index 0 ||| (bits <<< s.shift)) &&& mask64)
  if s.multiWord then out.set (s.index + 1) (out.getD (s.index + 1) 0 ||| (bits >>> s.shiftHigh)) else out

theorem getD_set_succ (q : List Nat) (i v : Nat) : (q.set i v).getD (i + 1) 0 = q.getD (i + 1) 0 := by
  simp only [List.getD_eq_getElem?_getD, List.getElem?_set_ne (Nat.ne_of_lt (Nat.lt_succ_self i))]

theorem writeBits_words (c k bits : Nat) (hc : c ≤ 64) (hk : k * c < 256) {q : List Nat} (hq : Words q)
    (ho : num q < 2 ^ (k * c)) (hb : bits < 2 ^ c) (hfit : bits * 2 ^ (k * c) < 2 ^ 256) :
    Words (writeBits c k bits q) ∧ num (writeBits c k bits q) = num q + bits * 2 ^ (k * c) := by
  have hw := hq.getD
  obtain ⟨idx, sh, hpos, hsh, hi, hs, _, htwo, hone⟩ := mkSelector_spec c k hc
  unfold writeBits
  simp only [hi, hs]
  rw [hpos, Nat.pow_add] at ho hfit ⊢
  -- below the chunk: word `idx` is below `2^sh`, word `idx+1` is empty
  have hlow : q.getD idx 0 < 2 ^ sh := by
    rw [hw, Nat.mod_eq_of_lt (Nat.lt_of_lt_of_le (Nat.div_lt_of_lt_mul ho) (Nat.pow_le_pow_right (by omega) (by omega)))]
    exact Nat.div_lt_of_lt_mul ho
  have hnext : q.getD (idx + 1) 0 = 0 := by
    rw [hw, Nat.div_eq_of_lt (Nat.lt_of_lt_of_le ho (by
      rw [← Nat.pow_add]; exact Nat.pow_le_pow_right (by omega) (by omega)))]
    rfl
  -- the digit, split at the word boundary: `bits = lo + 2^(64-sh)·hi`
  have hF : 2 ^ 64 = 2 ^ sh * 2 ^ (64 - sh) := pow_split (by omega)
  have hsplit := Nat.mod_add_div bits (2 ^ (64 - sh))
  have hlo := Nat.mod_lt bits (Nat.two_pow_pos (64 - sh))
  rw [mask64_eq, store_low _ bits sh hlow (by omega), getD_set_succ, hnext, Nat.zero_or, Nat.shiftRight_eq_div_pow]
  generalize bits % 2 ^ (64 - sh) = lo at *
  have hv1 : q.getD idx 0 + 2 ^ sh * lo < 2 ^ 64 := by
    have := Nat.mul_le_mul_left (2 ^ sh) hlo
    rw [Nat.mul_succ, ← hF] at this
    omega
  obtain ⟨hq1, hnum1⟩ := hq.set (i := idx) (by omega) hv1
  cases hmw : (mkSelector c k).multiWord
  · -- one word: the digit has no high part
    simp only [Bool.false_eq_true, ↓reduceIte]
    refine ⟨hq1, ?_⟩
    have hhi : bits / 2 ^ (64 - sh) = 0 := by
      apply Nat.div_eq_of_lt
      rcases hone hmw with hle | htop
      · exact Nat.lt_of_lt_of_le hb (Nat.pow_le_pow_right (by omega) (by omega))
      · have e : (2 : Nat) ^ 256 = 2 ^ (64 * idx) * 2 ^ sh * 2 ^ (64 - sh) := by
          rw [Nat.mul_assoc, ← hF, ← Nat.pow_add, show idx = 3 by omega]
        rw [e, Nat.mul_comm bits] at hfit
        exact Nat.lt_of_mul_lt_mul_left hfit
    rw [hhi, Nat.mul_zero, Nat.add_zero] at hsplit
    apply Nat.add_right_cancel (m := 2 ^ (64 * idx) * q.getD idx 0)
    rw [hnum1, ← hsplit]; ring
  · obtain ⟨_, hidx, _, hsH⟩ := htwo hmw
    simp only [↓reduceIte, hsH]
    have hv2 : bits / 2 ^ (64 - sh) < 2 ^ 64 :=
      Nat.lt_of_le_of_lt (Nat.div_le_self _ _) (Nat.lt_of_lt_of_le hb (Nat.pow_le_pow_right (by omega) hc))
    obtain ⟨hq2, hnum2⟩ := hq1.set (i := idx + 1) (by omega) hv2
    refine ⟨hq2, ?_⟩
    rw [getD_set_succ, hnext, Nat.mul_zero, Nat.add_zero, Nat.mul_succ, Nat.pow_add, hF] at hnum2
    generalize bits / 2 ^ (64 - sh) = hi at *
    apply Nat.add_right_cancel (m := 2 ^ (64 * idx) * q.getD idx 0)
    rw [hnum2, Nat.add_right_comm, hnum1, ← hsplit]; ring

/-- **What the recoder writes.** If the words so far hold a number below `2^(k·c)` and the digit
fits below bit 256, the two stores add `bits · 2^(k·c)` and keep every word below `2^64`. -/
theorem writeBits_spec (c k bits : Nat) (hc1 : 1 ≤ c) (hc : c ≤ 64) (hk : k * c < 256)
    (o0 o1 o2 o3 : Nat) (hw0 : o0 < 2 ^ 64) (hw1 : o1 < 2 ^ 64) (hw2 : o2 < 2 ^ 64) (hw3 : o3 < 2 ^ 64)
    (ho : num [o0, o1, o2, o3] < 2 ^ (k * c))
    (hb : bits < 2 ^ c) (hfit : bits * 2 ^ (k * c) < 2 ^ 256) :
    ∃ n0 n1 n2 n3, writeBits c k bits [o0, o1, o2, o3] = [n0, n1, n2, n3] ∧
      n0 < 2 ^ 64 ∧ n1 < 2 ^ 64 ∧ n2 < 2 ^ 64 ∧ n3 < 2 ^ 64 ∧
      num [n0, n1, n2, n3] = num [o0, o1, o2, o3] + bits * 2 ^ (k * c) := by
  obtain ⟨⟨n0, n1, n2, n3, e, hn⟩, hnum⟩ :=
    writeBits_words c k bits hc hk ⟨o0, o1, o2, o3, rfl, hw0, hw1, hw2, hw3⟩ ho hb hfit
  exact ⟨n0, n1, n2, n3, e, hn.1, hn.2.1, hn.2.2.1, hn.2.2.2, e ▸ hnum⟩

theorem and_two_pow_of_lt (a m : Nat) (h : a < 2 ^ m) : a &&& 2 ^ m = 0 := by
  apply Nat.eq_of_testBit_eq
  intro i
  rw [Nat.testBit_and, Nat.testBit_two_pow, Nat.zero_testBit]
  by_cases hi : m = i
  · subst hi; simp [Nat.testBit_lt_two_pow h]
  · simp [hi]

theorem or_and_two_pow (a m : Nat) : (a ||| 2 ^ m) &&& 2 ^ m = 2 ^ m := by
  apply Nat.eq_of_testBit_eq
  intro i
  rw [Nat.testBit_and, Nat.testBit_or, Nat.testBit_two_pow]
  by_cases hi : m = i <;> simp [hi]

theorem or_and_low (a m : Nat) (h : a < 2 ^ m) : (a ||| 2 ^ m) &&& (2 ^ m - 1) = a := by
  rw [Nat.or_two_pow_eq_add_of_lt h, Nat.and_two_pow_sub_one_eq_mod, Nat.add_mod_right, Nat.mod_eq_of_lt h]

/-- how a signed digit is stored -/
def encDigit (c : Nat) (d : Int) : Nat :=
  if d ≥ 0 then d.toNat else ((-d - 1).toNat ||| (1 <<< (c - 1)))

theorem decodeDigit_zero (c : Nat) : decodeDigit c 0 = 0 := rfl

/-- a stored digit, zero included, lies below `2^c`, decodes to itself and addresses an existing bucket -/
theorem encDigit_props (c : Nat) (hc1 : 1 ≤ c) (d : Int) (hlo : -(2 ^ (c - 1) : Nat) ≤ d) (hhi : d < (2 ^ (c - 1) : Nat)) :
    encDigit c d < 2 ^ c ∧ decodeDigit c (encDigit c d) = d ∧ (d ≥ 0 → encDigit c d = d.toNat) ∧
    ∀ nb, (d > 0 → d.toNat ≤ nb) → (d < 0 → 2 ^ (c - 1) ≤ nb) → Pip.InRange c nb (encDigit c d) := by
  have hpow : 2 ^ c = 2 * 2 ^ (c - 1) := by rw [← Nat.pow_succ']; congr 1; omega
  unfold encDigit decodeDigit Pip.InRange
  rw [Nat.one_shiftLeft]
  by_cases hge : d ≥ 0
  · rw [if_pos hge]
    obtain ⟨n, rfl⟩ := Int.eq_ofNat_of_zero_le hge
    have hn : n < 2 ^ (c - 1) := by exact_mod_cast hhi
    simp only [Int.toNat_natCast]
    have hand := and_two_pow_of_lt n (c - 1) hn
    refine ⟨by omega, ?_, fun _ => trivial, fun nb h1 _ h0 => ?_⟩
    · rw [if_pos hand]; split <;> omega
    · rw [if_pos hand]
      have := h1 (by omega)
      omega
  · rw [if_neg hge]
    obtain ⟨m, hm⟩ : ∃ m : Nat, -d - 1 = (m : Int) := ⟨(-d - 1).toNat, by omega⟩
    have hmlt : m < 2 ^ (c - 1) := by
      have : (m : Int) < (2 ^ (c - 1) : Nat) := by omega
      exact_mod_cast this
    rw [hm]
    simp only [Int.toNat_natCast]
    have h1 := or_and_two_pow m (c - 1)
    have h2 := or_and_low m (c - 1) hmlt
    have h3 := Nat.or_two_pow_eq_add_of_lt hmlt
    have hpos := Nat.two_pow_pos (c - 1)
    have hne : (m ||| 2 ^ (c - 1)) ≠ 0 := by rw [h3]; omega
    have hand : ¬ ((m ||| 2 ^ (c - 1)) &&& 2 ^ (c - 1) = 0) := by rw [h1]; omega
    refine ⟨by rw [h3]; omega, ?_, fun h => absurd h hge, fun nb _ h2' _ => ?_⟩
    · rw [if_neg hne, if_neg hand, h2]; omega
    · rw [if_neg hand, h2]
      have := h2' (by omega)
      omega

/-- a stored digit decodes to itself, lies below `2^c` and addresses an existing bucket -/
theorem encDigit_spec (c : Nat) (hc1 : 1 ≤ c) (d : Int) (hd0 : d ≠ 0) (hlo : -(2 ^ (c - 1) : Nat) ≤ d)
    (hhi : d < (2 ^ (c - 1) : Nat)) :
    encDigit c d ≠ 0 ∧ encDigit c d < 2 ^ c ∧ decodeDigit c (encDigit c d) = d ∧
    (d > 0 → encDigit c d = d.toNat) ∧
    ∀ nb, (d > 0 → d.toNat ≤ nb) → (d < 0 → 2 ^ (c - 1) ≤ nb) → Pip.InRange c nb (encDigit c d) := by
  obtain ⟨e2, e3, e4, e5⟩ := encDigit_props c hc1 d hlo hhi
  exact ⟨fun h => hd0 (by rw [← e3, h, decodeDigit_zero]), e2, e3, fun h => e4 (Int.le_of_lt h), e5⟩

theorem window_add_high (c A b k j : Nat) (hj : j < k) : window c (A + b * 2 ^ (k * c)) j = window c A j :=
  field_add_high A b (k * c) (j * c) c (by rw [← Nat.succ_mul]; exact Nat.mul_le_mul_right c hj)

theorem window_self (c A b k : Nat) (hA : A < 2 ^ (k * c)) (hb : b < 2 ^ c) : window c (A + b * 2 ^ (k * c)) k = b := by
  unfold window; rw [field_add_self A b (k * c) c hA, Nat.mod_eq_of_lt hb]

theorem window_zero (c A k : Nat) (hA : A < 2 ^ (k * c)) : window c A k = 0 := by
  unfold window; rw [Nat.div_eq_of_lt hA, Nat.zero_mod]

/-- `Σ_{j<k} 2^(c·j) · digit_j(N)` -/
def Dn (c k N : Nat) : Int :=
  ((List.range k).map fun j => ((2 ^ (c * j) : Nat) : Int) * decodeDigit c (window c N j)).sum

theorem Dn_succ (c k N : Nat) : Dn c (k + 1) N = Dn c k N + ((2 ^ (c * k) : Nat) : Int) * decodeDigit c (window c N k) := by
  unfold Dn; rw [List.range_succ, List.map_append, List.sum_append]; simp

theorem Dn_add_high (c k A b : Nat) : Dn c k (A + b * 2 ^ (k * c)) = Dn c k A := by
  unfold Dn
  apply congrArg
  apply List.map_congr_left
  intro j hj
  rw [window_add_high c A b k j (List.mem_range.mp hj)]

theorem digitSum_words (c n : Nat) (hc : c ≤ 64) (hn : ∀ k, k < n → k * c < 256) {q : List Nat} (hq : Words q) :
    Pip.digitSum c n q = Dn c n (num q) := by
  unfold Pip.digitSum Dn
  apply congrArg
  apply List.map_congr_left
  intro k hk
  rw [selectBits_words c k hc (hn k (List.mem_range.mp hk)) hq]

theorem partitionStep_eq (c : Nat) (limbs out : List Nat) (carry : Int) (k : Nat) :
    partitionStep c limbs (out, carry) k =
      (let v : Int := carry + (selectBits c limbs k : Int)
       if v = 0 then (out, 0)
       else
         let b : Int := if v ≥ ((2 ^ (c - 1) : Nat) : Int) then 1 else 0
         (writeBits c k (encDigit c (v - b * ((2 ^ c : Nat) : Int))) out, b)) := by
  unfold partitionStep writeBits encDigit
  simp only [Nat.one_shiftLeft]
  by_cases h0 : carry + (selectBits c limbs k : Int) = 0
  · simp only [h0, ↓reduceIte]
  · by_cases hge : carry + (selectBits c limbs k : Int) ≥ ((2 ^ (c - 1) : Nat) : Int)
    · simp only [h0, hge, ↓reduceIte, one_mul]
    · simp only [h0, hge, ↓reduceIte, zero_mul, sub_zero]

/-- the loop invariant after `k` chunks -/
structure Inv (c s k : Nat) (st : List Nat × Int) : Prop where
  shape : ∃ o0 o1 o2 o3, st.1 = [o0, o1, o2, o3] ∧ o0 < 2 ^ 64 ∧ o1 < 2 ^ 64 ∧ o2 < 2 ^ 64 ∧ o3 < 2 ^ 64
  small : num st.1 < 2 ^ (k * c)
  carry : st.2 = 0 ∨ st.2 = 1
  value : Dn c k (num st.1) + st.2 * ((2 ^ (k * c) : Nat) : Int) = ((s % 2 ^ (k * c) : Nat) : Int)

theorem mod_succ_chunk (c s k : Nat) : s % 2 ^ ((k + 1) * c) = s % 2 ^ (k * c) + 2 ^ (k * c) * window c s k := by
  unfold window
  rw [Nat.succ_mul, Nat.pow_add, Nat.mod_mul]

/-- the recoder's borrow `b` and digit `d = v − b·2h` for `v = carry + w`, window `w < 2h`: the digit lies in
`[−h, h)`, and there is no borrow when `w + 1 < h` -/
theorem borrow_spec (h carry w : Int) (hcarry : carry = 0 ∨ carry = 1) (hw0 : 0 ≤ w) (hw : w < 2 * h) (b : Int)
    (hb : (if carry + w ≥ h then (1 : Int) else 0) = b) :
    (b = 0 ∨ b = 1) ∧ -h ≤ carry + w - b * (2 * h) ∧ carry + w - b * (2 * h) < h ∧ (w + 1 < h → b = 0) := by
  subst hb
  split <;> rcases hcarry with rfl | rfl <;> omega

/-- **One chunk of the recoding loop.** -/
theorem step (c s k : Nat) (hc2 : 2 ≤ c) (hc : c ≤ 64) (hs : s < 2 ^ 256) (hk : k * c < 256)
    (st : List Nat × Int) (hinv : Inv c s k st) (nbk : Nat)
    (hcase : ((k + 1) * c ≤ 256 ∧ 2 ^ (c - 1) ≤ nbk) ∨
      (window c s k + 1 ≤ 2 ^ (256 - k * c - 1) ∧ window c s k + 1 < 2 ^ (c - 1) ∧ window c s k + 1 ≤ nbk)) :
    Inv c s (k + 1) (partitionStep c (limbsOf s) st k) ∧
    Pip.InRange c nbk (window c (num (partitionStep c (limbsOf s) st k).1) k) ∧
    (∃ b, num (partitionStep c (limbsOf s) st k).1 = num st.1 + b * 2 ^ (k * c)) ∧
    (window c s k + 1 < 2 ^ (c - 1) → (partitionStep c (limbsOf s) st k).2 = 0) := by
  obtain ⟨out, carry⟩ := st
  obtain ⟨hq, hsmall, hcarry, hval⟩ := hinv
  simp only at hq hsmall hcarry hval
  rw [partitionStep_eq, selectBits_scalar c k s hc hk hs]
  have hpow : 2 ^ c = 2 * 2 ^ (c - 1) := by rw [← Nat.pow_succ']; congr 1; omega
  have hw : window c s k < 2 ^ c := Nat.mod_lt _ (Nat.two_pow_pos _)
  have hPP : 2 ^ ((k + 1) * c) = 2 ^ (k * c) * 2 ^ c := by rw [Nat.succ_mul, Nat.pow_add]
  have hmod := mod_succ_chunk c s k
  have hpos := Nat.two_pow_pos (k * c)
  generalize hW : window c s k = w at *
  simp only
  by_cases h0 : carry + (w : Int) = 0
  · -- nothing stored
    rw [if_pos h0]
    obtain rfl : carry = 0 := by omega
    obtain rfl : w = 0 := by omega
    have hz := window_zero c _ k hsmall
    refine ⟨⟨hq, ?_, Or.inl rfl, ?_⟩, ?_, ⟨0, by simp⟩, fun _ => rfl⟩
    · simp only; rw [hPP]; exact Nat.lt_of_lt_of_le hsmall (Nat.le_mul_of_pos_right _ (Nat.two_pow_pos c))
    · simp only
      rw [Dn_succ, hz, hmod, decodeDigit_zero]
      simpa using hval
    · simp only; rw [hz]; exact fun h => absurd rfl h
  · rw [if_neg h0]
    -- the digit `d` and the borrow `b`: `d + b·2^c = carry + w`, `-2^(c-1) ≤ d < 2^(c-1)`
    have hpowZ : ((2 ^ c : Nat) : Int) = 2 * ((2 ^ (c - 1) : Nat) : Int) := by exact_mod_cast hpow
    have hwZ : (w : Int) < ((2 ^ c : Nat) : Int) := by exact_mod_cast hw
    generalize hb : (if carry + (w : Int) ≥ ((2 ^ (c - 1) : Nat) : Int) then (1 : Int) else 0) = b
    obtain ⟨hb01, hdlo, hdhi, hbw⟩ := borrow_spec _ carry w hcarry (Int.natCast_nonneg w) (by omega) b hb
    rw [← hpowZ] at hdlo hdhi
    generalize hd : carry + (w : Int) - b * ((2 ^ c : Nat) : Int) = d at *
    obtain ⟨e2, e3, e4, e5⟩ := encDigit_props c (by omega) d hdlo hdhi
    generalize encDigit c d = bits at *
    -- the stored digit fits below bit 256 and addresses a bucket: any digit away from the top chunk,
    -- the small positive digit of the top chunk
    have hfr : bits * 2 ^ (k * c) < 2 ^ 256 ∧ Pip.InRange c nbk bits := by
      clear hval hmod hsmall hq hs -- not used here; `omega` is slow with them in the context
      rcases hcase with ⟨hA, hnb⟩ | ⟨hB1, hB2, hB3⟩
      · refine ⟨Nat.lt_of_lt_of_le (Nat.mul_lt_mul_of_pos_right e2 hpos) ?_, e5 nbk (fun _ => by omega) (fun _ => hnb)⟩
        rw [Nat.mul_comm, ← hPP]; exact Nat.pow_le_pow_right (by omega) hA
      · obtain rfl := hbw (by exact_mod_cast hB2)
        have hbits : bits ≤ w + 1 := by
          rw [e4 (by rcases hcarry with h' | h' <;> omega)]; rcases hcarry with h' | h' <;> omega
        refine ⟨Nat.lt_of_le_of_lt (Nat.mul_le_mul_right _ (Nat.le_trans hbits hB1)) ?_,
          e5 nbk (fun _ => by rcases hcarry with h' | h' <;> omega) (fun h => by rcases hcarry with h' | h' <;> omega)⟩
        rw [← Nat.pow_add]; exact Nat.pow_lt_pow_right (by omega) (by omega)
    obtain ⟨hq', hnum⟩ := writeBits_words c k bits hc hk hq hsmall e2 hfr.1
    have hwin : window c (num (writeBits c k bits out)) k = bits := by rw [hnum]; exact window_self c _ bits k hsmall e2
    refine ⟨⟨hq', ?_, hb01, ?_⟩, by rw [hwin]; exact hfr.2, ⟨bits, hnum⟩, fun h => hbw (by exact_mod_cast h)⟩
    · simp only
      rw [hnum, hPP]
      have := Nat.mul_le_mul_right (2 ^ (k * c)) (Nat.succ_le_of_lt e2)
      rw [Nat.succ_mul, Nat.mul_comm (2 ^ c)] at this
      omega
    · simp only
      rw [Dn_succ, hwin, e3, hnum, Dn_add_high, hmod, hPP, Nat.mul_comm c k]
      push_cast
      push_cast at hval hd
      linear_combination hval - ((2 : Int) ^ (k * c)) * hd

/-- the state after `k` chunks -/
theorem loop_inv (c s : Nat) (hc2 : 2 ≤ c) (hc : c ≤ 64) (hs : s < 2 ^ 256) (nb : Nat → Nat)
    (hchunks : ∀ k, k * c < 256 →
      ((k + 1) * c ≤ 256 ∧ 2 ^ (c - 1) ≤ nb k) ∨
      (window c s k + 1 ≤ 2 ^ (256 - k * c - 1) ∧ window c s k + 1 < 2 ^ (c - 1) ∧ window c s k + 1 ≤ nb k)) :
    ∀ k, (k = 0 ∨ (k - 1) * c < 256) →
      let st := (List.range k).foldl (partitionStep c (limbsOf s)) ([0, 0, 0, 0], 0)
      Inv c s k st ∧ (∀ j, j < k → Pip.InRange c (nb j) (window c (num st.1) j)) ∧
      (1 ≤ k → window c s (k - 1) + 1 < 2 ^ (c - 1) → st.2 = 0) := by
  intro k
  induction k with
  | zero =>
    intro _
    refine ⟨⟨⟨0, 0, 0, 0, rfl, by decide, by decide, by decide, by decide⟩, by simp [num], Or.inl rfl, ?_⟩, fun j hj => by omega, fun h => by omega⟩
    simp [Dn, num, Nat.mod_one]
  | succ k ih =>
    intro hk
    have hk' : k * c < 256 := by
      rcases hk with h | h
      · omega
      · simpa using h
    obtain ⟨hinv, hrange, _⟩ := ih (by
      cases k with
      | zero => exact Or.inl rfl
      | succ m =>
        right
        simp only [Nat.add_sub_cancel]
        have : m * c ≤ (m + 1) * c := Nat.mul_le_mul_right _ (by omega)
        omega)
    simp only [List.range_succ, List.foldl_append, List.foldl_cons, List.foldl_nil]
    obtain ⟨i1, i2, ⟨b, i3⟩, i4⟩ := step c s k hc2 hc hs hk' _ hinv (nb k) (hchunks k hk')
    refine ⟨i1, ?_, fun _ => by simpa using i4⟩
    intro j hj
    by_cases hjk : j = k
    · subst hjk; exact i2
    · rw [i3, window_add_high c _ b k j (by omega)]
      exact hrange j (by omega)

theorem nbChunks_bounds (c : Nat) (hc1 : 1 ≤ c) (hc : c ≤ 64) :
    1 ≤ nbChunks c ∧ (nbChunks c - 1) * c < 256 ∧ 256 ≤ nbChunks c * c := by
  unfold nbChunks
  have hdm := Nat.div_add_mod 256 c
  have hr := Nat.mod_lt 256 (show c > 0 by omega)
  have hq : 4 ≤ 256 / c := by
    rw [Nat.le_div_iff_mul_le (by omega)]; omega
  rw [Nat.mul_comm] at hdm
  by_cases h : 256 % c ≠ 0
  · rw [if_pos h, Nat.add_sub_cancel, Nat.succ_mul]
    omega
  · rw [if_neg h, Nat.sub_mul, Nat.one_mul]
    omega

/-- **Recoding of one scalar.** For every width `2 ≤ c ≤ 64` and every scalar below `2^256` whose
top window is small enough (no carry out of the last chunk, the stored top digit fits its
narrower bucket array): the stored digits, read back through the selectors, sum to the scalar
and every one of them addresses an existing bucket. -/
theorem partitionScalar_spec (c s : Nat) (hc2 : 2 ≤ c) (hc : c ≤ 64) (hs : s < 2 ^ 256)
    (hmid : ∀ k, (k + 1) * c ≤ 256 → k ≠ nbChunks c - 1 → 2 ^ (c - 1) ≤ Pip.nbOf c k)
    (htop : window c s (nbChunks c - 1) + 1 ≤ 2 ^ (256 - (nbChunks c - 1) * c - 1) ∧
      window c s (nbChunks c - 1) + 1 < 2 ^ (c - 1) ∧
      window c s (nbChunks c - 1) + 1 ≤ Pip.nbOf c (nbChunks c - 1)) :
    Pip.digitSum c (nbChunks c) (partitionScalar c s) = (s : Int) ∧
    ∀ k, k < nbChunks c → Pip.InRange c (Pip.nbOf c k) (selectBits c (partitionScalar c s) k) := by
  obtain ⟨hn1, hnlo, hnhi⟩ := nbChunks_bounds c (by omega) hc
  have hkc : ∀ k, k < nbChunks c → k * c < 256 := fun k hk =>
    Nat.lt_of_le_of_lt (Nat.mul_le_mul_right c (Nat.le_sub_one_of_lt hk)) hnlo
  -- in terms of the number the result holds
  suffices h : Words (partitionScalar c s) ∧ Dn c (nbChunks c) (num (partitionScalar c s)) = (s : Int) ∧
      ∀ k, k < nbChunks c → Pip.InRange c (Pip.nbOf c k) (window c (num (partitionScalar c s)) k) by
    obtain ⟨hq, hsum, hrange⟩ := h
    refine ⟨by rw [digitSum_words c _ hc hkc hq, hsum], fun k hk => ?_⟩
    rw [selectBits_words c k hc (hkc k hk) hq]
    exact hrange k hk
  unfold partitionScalar
  by_cases hs0 : s = 0
  · rw [if_pos hs0, hs0]
    have hz : ∀ k, window c (num [0, 0, 0, 0]) k = 0 := fun k => by simp [window, num]
    refine ⟨⟨0, 0, 0, 0, rfl, by decide, by decide, by decide, by decide⟩, by simp [Dn, hz, decodeDigit_zero], fun k _ => ?_⟩
    rw [hz]
    exact fun h => absurd rfl h
  · rw [if_neg hs0]
    have hchunks : ∀ k, k * c < 256 →
        ((k + 1) * c ≤ 256 ∧ 2 ^ (c - 1) ≤ Pip.nbOf c k) ∨
        (window c s k + 1 ≤ 2 ^ (256 - k * c - 1) ∧ window c s k + 1 < 2 ^ (c - 1) ∧ window c s k + 1 ≤ Pip.nbOf c k) := by
      intro k hk
      by_cases hkt : k = nbChunks c - 1
      · right; rw [hkt]; exact htop
      · left
        have hklt : k < nbChunks c - 1 := by
          by_contra hge
          have : (nbChunks c) * c ≤ k * c := Nat.mul_le_mul_right _ (by omega)
          omega
        have hle : (k + 1) * c ≤ (nbChunks c - 1) * c := Nat.mul_le_mul_right _ (by omega)
        exact ⟨by omega, hmid k (by omega) hkt⟩
    obtain ⟨hinv, hrange, hcar⟩ := loop_inv c s hc2 hc hs (Pip.nbOf c) hchunks (nbChunks c) (Or.inr hnlo)
    refine ⟨hinv.shape, ?_, hrange⟩
    have hval := hinv.value
    rw [hcar hn1 htop.2.1, zero_mul, add_zero] at hval
    rw [hval, Nat.mod_eq_of_lt (Nat.lt_of_lt_of_le hs (Nat.pow_le_pow_right (by omega) hnhi))]

end GoIpa.PipBits
