/-
  The polynomial identities behind the group law of the unified twisted Edwards addition, over
  any commutative ring (`ring` is markedly cheaper there than over a field, and nothing below
  divides).

  Closure: the curve equation of `p + q`, cleared of denominators, lies in the ideal of the curve
  equations of `p` and `q`.

  Associativity: write `(p + q) + r = (Nx / Dx, Ny / Dy)` with the denominators of `p + q` cleared.
  As the law is commutative, `p + (q + r) = (r + q) + p`, so associativity says that these
  fractions do not change when `p` and `r` are exchanged; `Nx p q r * Dx r q p - Nx r q p * Dx p q r`
  lies in the ideal of the three curve equations (it is `d x₂ y₂` times a combination of them).
  The cofactors come from dividing by the curve equations with leading term `d xᵢ² yᵢ²`, the outer
  points `p`, `r` first and `q` last; `ring` checks them, nothing about the computation is trusted.
-/
import Mathlib.Tactic.Ring
import Mathlib.Tactic.LinearCombination
import GoIpa.Model.Curve
namespace GoIpa.Edwards
open GoIpa

variable {R : Type} [CommRing R]

theorem closure_identity (c : Curve R) (p q : Aff R) (h1 : p.onCurve c) (h2 : q.onCurve c) :
    c.a * ((p.x * q.y + p.y * q.x) * (1 - c.d * (p.x * q.x) * (p.y * q.y))) ^ 2
      + ((p.y * q.y - c.a * (p.x * q.x)) * (1 + c.d * (p.x * q.x) * (p.y * q.y))) ^ 2
    = ((1 + c.d * (p.x * q.x) * (p.y * q.y)) * (1 - c.d * (p.x * q.x) * (p.y * q.y))) ^ 2
      + c.d * ((p.x * q.y + p.y * q.x) * (p.y * q.y - c.a * (p.x * q.x))) ^ 2 := by
  obtain ⟨x1, y1⟩ := p
  obtain ⟨x2, y2⟩ := q
  obtain ⟨a, d⟩ := c
  simp only [Aff.onCurve] at h1 h2 ⊢
  linear_combination
    (a*d^2*x1^2*y1^2*x2^4*y2^2 - a*d*x1^2*x2^2*y2^2 - a*d*y1^2*x2^4 + a*x2^2 + d^2*x1^2*y1^2*x2^2*y2^4
      - d^2*x1^2*y1^2*x2^2*y2^2 + d^2*y1^2*x2^4*y2^2 - 2*d*y1^2*x2^2*y2^2 + d*y1^2*x2^2 - d*x2^2*y2^2 + y2^2) * h1
    + (d^3*x1^4*y1^4*x2^2*y2^2 - d^2*x1^2*y1^4*x2^2 - d*x1^2*y1^2*y2^2 + d*y1^4*x2^2 - d*y1^2*x2^2 + 1) * h2

/-- numerators and denominators of the coordinates of `(p + q) + r` -/
def Nx (c : Curve R) (p q r : Aff R) : R :=
  (p.x * q.y + p.y * q.x) * r.y * (1 - c.d * (p.x * q.x) * (p.y * q.y))
    + (p.y * q.y - c.a * (p.x * q.x)) * r.x * (1 + c.d * (p.x * q.x) * (p.y * q.y))
def Dx (c : Curve R) (p q r : Aff R) : R :=
  (1 + c.d * (p.x * q.x) * (p.y * q.y)) * (1 - c.d * (p.x * q.x) * (p.y * q.y))
    + c.d * (p.x * q.y + p.y * q.x) * (p.y * q.y - c.a * (p.x * q.x)) * r.x * r.y
def Ny (c : Curve R) (p q r : Aff R) : R :=
  (p.y * q.y - c.a * (p.x * q.x)) * r.y * (1 + c.d * (p.x * q.x) * (p.y * q.y))
    - c.a * (p.x * q.y + p.y * q.x) * r.x * (1 - c.d * (p.x * q.x) * (p.y * q.y))
def Dy (c : Curve R) (p q r : Aff R) : R :=
  (1 + c.d * (p.x * q.x) * (p.y * q.y)) * (1 - c.d * (p.x * q.x) * (p.y * q.y))
    - c.d * (p.x * q.y + p.y * q.x) * (p.y * q.y - c.a * (p.x * q.x)) * r.x * r.y

theorem assoc_x_identity (c : Curve R) (p q r : Aff R) (h1 : p.onCurve c) (h2 : q.onCurve c) (h3 : r.onCurve c) :
    Nx c p q r * Dx c r q p = Nx c r q p * Dx c p q r := by
  obtain ⟨x1, y1⟩ := p
  obtain ⟨x2, y2⟩ := q
  obtain ⟨x3, y3⟩ := r
  obtain ⟨a, d⟩ := c
  simp only [Aff.onCurve] at h1 h2 h3
  simp only [Nx, Dx]
  linear_combination
    d * x2 * y2 * (x1 * (-a^2*x2^3*x3^2*y3 - a^2*x2^2*y2*x3^3 + a*d*x2^3*y2^2*x3^2*y3 + a*x2^2*y2*x3 -
      d*x2^2*y2^3*x3*y3^2 + x2*y2^2*y3^3 - x2*y2^2*y3 + y2^3*x3*y3^2) + y1 * (-a*x2^3*x3*y3^2 +
      a*x2*y2^2*x3^3 + d*x2^3*y2^2*x3*y3^2 + d*x2^2*y2^3*x3^2*y3 + x2^2*y2*y3^3 - x2^2*y2*y3 - x2*y2^2*x3 -
      y2^3*x3^2*y3)) * h1
    + d * x2 * y2 * (a^2*x1^3*x2*x3^2*y3 - a^2*x1^2*y1*x2*x3^3 - a*x1^3*y2*x3*y3^2 + a*x1^2*y1*x2*x3 +
      a*x1*y1^2*y2*x3^3 - a*x1*x2*x3^2*y3 - x1^2*y1*y2*y3^3 + x1^2*y1*y2*y3 - x1*y1^2*x2*y3^3 +
      x1*y1^2*x2*y3 - x1*y1^2*y2*x3 + x1*y2*x3*y3^2 + y1^3*x2*x3*y3^2 + y1^3*y2*x3^2*y3 - y1*x2*x3*y3^2 -
      y1*y2*x3^2*y3) * h2
    + d * x2 * y2 * (x3 * (a^2*x1^3*x2^2*y2 + a^2*x1^2*y1*x2^3 - a*d*x1^2*y1*x2^3*y2^2 - a*x1*x2^2*y2 +
      d*x1*y1^2*x2^2*y2^3 - x1*y1^2*y2^3 - y1^3*x2*y2^2 + y1*x2*y2^2) + y3 * (-a*x1^3*x2*y2^2 +
      a*x1*y1^2*x2^3 - d*x1^2*y1*x2^2*y2^3 - d*x1*y1^2*x2^3*y2^2 + x1^2*y1*y2^3 + x1*x2*y2^2 - y1^3*x2^2*y2
      + y1*x2^2*y2)) * h3

theorem assoc_y_identity (c : Curve R) (p q r : Aff R) (h1 : p.onCurve c) (h2 : q.onCurve c) (h3 : r.onCurve c) :
    Ny c p q r * Dy c r q p = Ny c r q p * Dy c p q r := by
  obtain ⟨x1, y1⟩ := p
  obtain ⟨x2, y2⟩ := q
  obtain ⟨x3, y3⟩ := r
  obtain ⟨a, d⟩ := c
  simp only [Aff.onCurve] at h1 h2 h3
  simp only [Ny, Dy]
  linear_combination
    d * x2 * y2 * (x1 * (a^2*x2^3*x3*y3^2 - a^2*x2*y2^2*x3^3 - a*d*x2^3*y2^2*x3*y3^2 -
      a*d*x2^2*y2^3*x3^2*y3 - a*x2^2*y2*y3^3 + a*x2^2*y2*y3 + a*x2*y2^2*x3 + a*y2^3*x3^2*y3) + y1 *
      (-a^2*x2^3*x3^2*y3 - a^2*x2^2*y2*x3^3 + a*d*x2^3*y2^2*x3^2*y3 + a*x2^2*y2*x3 - d*x2^2*y2^3*x3*y3^2 +
      x2*y2^2*y3^3 - x2*y2^2*y3 + y2^3*x3*y3^2)) * h1
    + d * x2 * y2 * (-a^2*x1^3*x2*x3*y3^2 - a^2*x1^3*y2*x3^2*y3 + a^2*x1^2*y1*y2*x3^3 + a^2*x1*y1^2*x2*x3^3
      - a*x1^2*y1*x2*y3^3 + a*x1^2*y1*x2*y3 - a*x1^2*y1*y2*x3 - a*x1*y1^2*x2*x3 + a*x1*x2*x3*y3^2 +
      a*x1*y2*x3^2*y3 + a*y1^3*x2*x3^2*y3 - a*y1*x2*x3^2*y3 + x1*y1^2*y2*y3^3 - x1*y1^2*y2*y3 -
      y1^3*y2*x3*y3^2 + y1*y2*x3*y3^2) * h2
    + d * x2 * y2 * (x3 * (a^2*x1^3*x2*y2^2 - a^2*x1*y1^2*x2^3 + a*d*x1^2*y1*x2^2*y2^3 +
      a*d*x1*y1^2*x2^3*y2^2 - a*x1^2*y1*y2^3 - a*x1*x2*y2^2 + a*y1^3*x2^2*y2 - a*y1*x2^2*y2) + y3 *
      (a^2*x1^3*x2^2*y2 + a^2*x1^2*y1*x2^3 - a*d*x1^2*y1*x2^3*y2^2 - a*x1*x2^2*y2 + d*x1*y1^2*x2^2*y2^3 -
      x1*y1^2*y2^3 - y1^3*x2*y2^2 + y1*x2*y2^2)) * h3

end GoIpa.Edwards
