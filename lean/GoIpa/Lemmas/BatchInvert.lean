/-
  Montgomery batch inversion with zero skipping equals pointwise inversion (`0⁻¹ = 0`).
-/
import Mathlib.Tactic.Ring
import Mathlib.Tactic.FieldSimp
import Mathlib.Algebra.Field.Basic
import GoIpa.Model.Bary
namespace GoIpa

variable {F : Type} [Field F] [DecidableEq F]

/-- prefix products over the non-zero entries, starting from `c` (a `0` placeholder at zeros) -/
def biPrefixes (c : F) : List F → List F
  | [] => []
  | x :: xs => if x = 0 then 0 :: biPrefixes c xs else c :: biPrefixes (c * x) xs

def biTotal (c : F) : List F → F
  | [] => c
  | x :: xs => if x = 0 then biTotal c xs else biTotal (c * x) xs

theorem biTotal_ne_zero (c : F) (hc : c ≠ 0) (a : List F) : biTotal c a ≠ 0 := by
  induction a generalizing c with
  | nil => simpa [biTotal]
  | cons x xs ih =>
    unfold biTotal
    by_cases hx : x = 0
    · simpa [hx] using ih c hc
    · simpa [hx] using ih (c * x) (mul_ne_zero hc hx)

theorem bi_forward (a : List F) (l : List F) (c : F) :
    a.foldl (fun (st : List F × F) x => if x = 0 then (st.1 ++ [0], st.2) else (st.1 ++ [st.2], st.2 * x)) (l, c)
      = (l ++ biPrefixes c a, biTotal c a) := by
  induction a generalizing l c with
  | nil => simp [biPrefixes, biTotal]
  | cons x xs ih =>
    by_cases hx : x = 0
    · simp [List.foldl_cons, hx, ih, biPrefixes, biTotal]
    · simp [List.foldl_cons, hx, ih, biPrefixes, biTotal]

theorem bi_backward (a : List F) (c t : F) (hc : c ≠ 0) (ht : t * biTotal c a = 1) :
    (List.zip a (biPrefixes c a)).foldr (fun (xp : F × F) (st : List F × F) =>
        if xp.1 = 0 then (0 :: st.1, st.2) else ((xp.2 * st.2) :: st.1, st.2 * xp.1)) ([], t)
      = (a.map (·⁻¹), (c)⁻¹) := by
  induction a generalizing c with
  | nil =>
    simp only [biTotal] at ht
    simp only [biPrefixes, List.zip_nil_right, List.foldr_nil, List.map_nil, Prod.mk.injEq, true_and]
    exact eq_inv_of_mul_eq_one_left ht
  | cons x xs ih =>
    by_cases hx : x = 0
    · subst hx
      simp only [biPrefixes, biTotal, ↓reduceIte] at ht ⊢
      simp only [List.zip_cons_cons, List.foldr_cons, ih c hc ht, ↓reduceIte, List.map_cons, inv_zero]
    · simp only [biPrefixes, biTotal, hx, ↓reduceIte] at ht ⊢
      have hcx : c * x ≠ 0 := mul_ne_zero hc hx
      simp only [List.zip_cons_cons, List.foldr_cons, ih (c * x) hcx ht, hx, ↓reduceIte, List.map_cons]
      congr 1
      · congr 1
        field_simp
      · field_simp

/-- **Batch inversion is pointwise inversion**, zeros staying zero, for every list. -/
theorem batchInvert_eq_map (a : List F) : batchInvert a = a.map (·⁻¹) := by
  unfold batchInvert
  rw [bi_forward a [] 1]
  simp only [List.nil_append]
  have hne := biTotal_ne_zero (1 : F) one_ne_zero a
  rw [bi_backward a 1 (biTotal 1 a)⁻¹ one_ne_zero (inv_mul_cancel₀ hne)]

theorem batchInvert_length (a : List F) : (batchInvert a).length = a.length := by
  rw [batchInvert_eq_map]; simp

/-- how every batch helper uses the batch inversion: zipped back onto the list it was computed from -/
theorem zipWith_batchInvert {α β : Type} (ps : List α) (g : α → F) (f : α → F → β) :
    List.zipWith f ps (batchInvert (ps.map g)) = ps.map fun p => f p (g p)⁻¹ := by
  rw [batchInvert_eq_map]
  induction ps with
  | nil => rfl
  | cons p ps ih => simp only [List.map_cons, List.zipWith_cons_cons, ih]

end GoIpa
