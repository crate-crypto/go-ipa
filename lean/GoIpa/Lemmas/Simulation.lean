/-
  Representation independence of the protocol model ("simulation").

  The prover and verifier of `Model/Ipa.lean` and `Model/Multiproof.lean` are generic in the group.
  If two group-like types `G₁`, `G₂` are connected by a relation `ρ` that is preserved by
  `0, +, −, s •`, under which related elements have the same encoding and the same equality test,
  then every function of the model maps related inputs to related outputs, with *equal*
  transcripts, challenges, field values, errors and decisions.

  The sums and lists of the model are `foldl`/`zipWith`/`zip`/`take`/`drop` of related lists, so
  they are related by parametricity of these combinators (`List.rel_foldl`, `rel_zipWith`), given
  that every operation applied to the elements respects `ρ`.  Only the two recursions that thread
  the transcript (`ipaRounds`, `genChallenges`) need an induction of their own.

  Instantiated in `Props/ConcreteExec.lean` with `G₁ = Pt` (projective coordinates over `Fp`, the
  executable type the driver runs against the Go code), `G₂ = BW` (the Banderwagon group, an
  `Fr`-vector space by `C08.card_BW`) and `ρ p x := p represents x`, this transports the
  theorems proved over abstract modules to the very functions that are executed.
-/
import GoIpa.Model.Multiproof
import Mathlib.Data.List.Forall2
set_option linter.unusedSectionVars false
namespace GoIpa.Sim
open GoIpa

/-! ### parametricity of the list combinators

The model builds its lists and sums with `List.zipWith`, `List.zip`, `List.foldl`, `List.take` and
`List.drop`.  Each of them maps related arguments to related results (`List.rel_foldl`,
`List.forall₂_take`, `List.forall₂_drop` in Mathlib); the relator of `zipWith` is missing there. -/

/-- `zipWith` maps related lists to related lists, if the zipped function respects the relations -/
theorem rel_zipWith {α α' β β' γ γ' : Type*} {R : α → α' → Prop} {S : β → β' → Prop} {T : γ → γ' → Prop}
    {f : α → β → γ} {g : α' → β' → γ'} {l₁ : List α} {l₁' : List α'} (h₁ : List.Forall₂ R l₁ l₁')
    {l₂ : List β} {l₂' : List β'} (h₂ : List.Forall₂ S l₂ l₂')
    (hfg : ∀ {a a' b b'}, R a a' → S b b' → T (f a b) (g a' b')) :
    List.Forall₂ T (List.zipWith f l₁ l₂) (List.zipWith g l₁' l₂') := by
  induction h₁ generalizing l₂ l₂' with
  | nil => exact List.Forall₂.nil
  | cons hab _ ih =>
    cases h₂ with
    | nil => exact List.Forall₂.nil
    | cons hcd h₂ => exact List.Forall₂.cons (hfg hab hcd) (ih h₂)

/-- `zip = zipWith Prod.mk`: related lists have componentwise related zips -/
theorem rel_zip {α α' β β' : Type*} {R : α → α' → Prop} {S : β → β' → Prop}
    {l₁ : List α} {l₁' : List α'} (h₁ : List.Forall₂ R l₁ l₁') {l₂ : List β} {l₂' : List β'}
    (h₂ : List.Forall₂ S l₂ l₂') :
    List.Forall₂ (fun e e' => R e.1 e'.1 ∧ S e.2 e'.2) (List.zip l₁ l₂) (List.zip l₁' l₂') :=
  rel_zipWith h₁ h₂ (fun ha hb => ⟨ha, hb⟩)

/-- a list that is the same on both sides (scalars, indices) is related to itself by `=` -/
theorem rel_self {α : Type*} (l : List α) : List.Forall₂ Eq l l := List.forall₂_refl l

variable {F G₁ G₂ : Type} [Zero F] [One F] [Add F] [Sub F] [Mul F] [Neg F] [Inv F] [NatCast F] [DecidableEq F]
variable [Zero G₁] [Add G₁] [Sub G₁] [SMul F G₁] [Zero G₂] [Add G₂] [Sub G₂] [SMul F G₂]

/-- `ρ` is a representation relation between two instances of the model's group interface -/
structure Rel (enc₁ : Enc F G₁) (enc₂ : Enc F G₂) (ρ : G₁ → G₂ → Prop) : Prop where
  zero : ρ 0 0
  add : ∀ {a a' b b'}, ρ a b → ρ a' b' → ρ (a + a') (b + b')
  sub : ∀ {a a' b b'}, ρ a b → ρ a' b' → ρ (a - a') (b - b')
  smul : ∀ (s : F) {a b}, ρ a b → ρ (s • a) (s • b)
  bytes : ∀ {a b}, ρ a b → enc₁.ptBytes a = enc₂.ptBytes b
  sc : enc₁.scBytes = enc₂.scBytes
  chal : enc₁.chal = enc₂.chal
  eq : ∀ {a a' b b'}, ρ a b → ρ a' b' → enc₁.eqG a a' = enc₂.eqG b b'

variable {enc₁ : Enc F G₁} {enc₂ : Enc F G₂} {ρ : G₁ → G₂ → Prop}

/-- related configurations: same scalar side, related basis and `Q` -/
structure CfgRel (ρ : G₁ → G₂ → Prop) (c₁ : IpaCfg F G₁) (c₂ : IpaCfg F G₂) : Prop where
  srs : List.Forall₂ ρ c₁.srs c₂.srs
  Q : ρ c₁.Q c₂.Q
  weights : c₁.weights = c₂.weights
  N : c₁.N = c₂.N
  rounds : c₁.rounds = c₂.rounds
  inDomain : c₁.inDomain = c₂.inDomain

/-- related proofs -/
structure IpaRel (ρ : G₁ → G₂ → Prop) (p₁ : IpaProof F G₁) (p₂ : IpaProof F G₂) : Prop where
  L : List.Forall₂ ρ p₁.L p₂.L
  R : List.Forall₂ ρ p₁.R p₂.R
  a : p₁.a = p₂.a

structure MpRel (ρ : G₁ → G₂ → Prop) (p₁ : MultiProof F G₁) (p₂ : MultiProof F G₂) : Prop where
  ipa : IpaRel ρ p₁.ipa p₂.ipa
  D : ρ p₁.D p₂.D

/-- the vector `b` depends on the scalar side of the configuration only -/
theorem bVector_eq {c₁ : IpaCfg F G₁} {c₂ : IpaCfg F G₂} (hc : CfgRel ρ c₁ c₂) (z : F) :
    bVector c₁ z = bVector c₂ z := by
  unfold bVector
  rw [hc.inDomain, hc.weights, hc.N]

section
variable (h : Rel enc₁ enc₂ ρ)
include h

theorem appendPoint_eq (tr : Tr) {a : G₁} {b : G₂} (hab : ρ a b) (l : Bytes) :
    tr.appendPoint enc₁ a l = tr.appendPoint enc₂ b l := by
  unfold Tr.appendPoint; rw [h.bytes hab]

theorem appendScalar_eq (tr : Tr) (s : F) (l : Bytes) :
    tr.appendScalar enc₁ s l = tr.appendScalar enc₂ s l := by
  unfold Tr.appendScalar; rw [h.sc]

theorem challenge_eq (tr : Tr) (l : Bytes) :
    (tr.challenge enc₁ l : F × Tr) = tr.challenge enc₂ l := by
  unfold Tr.challenge Tr.appendScalar; rw [h.sc, h.chal]

/-- `msm` is a `foldl (· + ·) 0` over a `zipWith (· • ·)` -/
theorem msm_rel {ps : List G₁} {qs : List G₂} (hl : List.Forall₂ ρ ps qs) (ss : List F) :
    ρ (msm ps ss) (msm qs ss) := by
  refine List.rel_foldl (R := ρ) ?_ h.zero (rel_zipWith (rel_self ss) hl ?_)
  · intro a b hab x y hxy
    exact h.add hab hxy
  · rintro s _ p q rfl hpq
    exact h.smul s hpq

theorem foldPoints_rel {a₁ b₁ : List G₁} {a₂ b₂ : List G₂} (ha : List.Forall₂ ρ a₁ a₂)
    (hb : List.Forall₂ ρ b₁ b₂) (x : F) :
    List.Forall₂ ρ (foldPoints a₁ b₁ x) (foldPoints a₂ b₂ x) :=
  rel_zipWith ha hb (fun hai hbi => h.add (h.smul x hbi) hai)

/-- the shape of every commitment the prover sends: `Σ aᵢ • gᵢ + s • q` -/
theorem commit_rel {g₁ : List G₁} {g₂ : List G₂} (hg : List.Forall₂ ρ g₁ g₂) (a : List F) (s : F)
    {q₁ : G₁} {q₂ : G₂} (hq : ρ q₁ q₂) : ρ (msm g₁ a + s • q₁) (msm g₂ a + s • q₂) :=
  h.add (msm_rel h hg a) (h.smul s hq)

/-- the folding rounds of the prover -/
theorem ipaRounds_rel {q₁ : G₁} {q₂ : G₂} (hq : ρ q₁ q₂) (n : Nat) (tr : Tr) (a b : List F)
    {g₁ : List G₁} {g₂ : List G₂} (hg : List.Forall₂ ρ g₁ g₂) :
    List.Forall₂ ρ (ipaRounds enc₁ q₁ n tr a b g₁).1 (ipaRounds enc₂ q₂ n tr a b g₂).1 ∧
    List.Forall₂ ρ (ipaRounds enc₁ q₁ n tr a b g₁).2.1 (ipaRounds enc₂ q₂ n tr a b g₂).2.1 ∧
    (ipaRounds enc₁ q₁ n tr a b g₁).2.2 = (ipaRounds enc₂ q₂ n tr a b g₂).2.2 := by
  induction n generalizing tr a b g₁ g₂ with
  | zero => exact ⟨List.Forall₂.nil, List.Forall₂.nil, rfl⟩
  | succ n ih =>
    simp only [ipaRounds]
    generalize a.length / 2 = m
    have hgL := List.forall₂_take m hg
    have hgR := List.forall₂_drop m hg
    have hcL := commit_rel h hgL (a.drop m) (innerProd (a.drop m) (b.take m)) hq
    have hcR := commit_rel h hgR (a.take m) (innerProd (a.take m) (b.drop m)) hq
    rw [appendPoint_eq h tr hcL, appendPoint_eq h _ hcR, challenge_eq h]
    generalize ((tr.appendPoint enc₂ _ Label.L).appendPoint enc₂ _ Label.R).challenge enc₂ Label.x = xc
    obtain ⟨x, tr'⟩ := xc
    simp only
    obtain ⟨i1, i2, i3⟩ := ih tr' (foldScalars (a.take m) (a.drop m) x)
      (foldScalars (b.take m) (b.drop m) x⁻¹) (foldPoints_rel h hgL hgR x⁻¹)
    refine ⟨List.Forall₂.cons hcL i1, List.Forall₂.cons hcR i2, ?_⟩
    simp only [i3]

/-- results of the provers: both fail, or both succeed with related proofs -/
def OptRel {A B : Type} (r : A → B → Prop) : Option A → Option B → Prop
  | none, none => True
  | some a, some b => r a b
  | _, _ => False

theorem ipaProve_rel {c₁ : IpaCfg F G₁} {c₂ : IpaCfg F G₂} (hc : CfgRel ρ c₁ c₂) (tr : Tr)
    {C₁ : G₁} {C₂ : G₂} (hC : ρ C₁ C₂) (a : List F) (z : F) :
    OptRel (IpaRel ρ) (ipaProve enc₁ c₁ tr C₁ a z).1 (ipaProve enc₂ c₂ tr C₂ a z).1 ∧
    (ipaProve enc₁ c₁ tr C₁ a z).2 = (ipaProve enc₂ c₂ tr C₂ a z).2 := by
  unfold ipaProve
  simp only [bVector_eq hc, appendPoint_eq h _ hC, appendScalar_eq h, challenge_eq h, hc.rounds]
  generalize ((((tr.domainSep Label.ipa).appendPoint enc₂ C₂ Label.C).appendScalar enc₂ z Label.inputPoint).appendScalar enc₂
    (innerProd a (bVector c₂ z)) Label.outputPoint).challenge enc₂ Label.w = wc
  obtain ⟨w, tr'⟩ := wc
  simp only
  obtain ⟨i1, i2, i3⟩ := ipaRounds_rel h (h.smul w hc.Q) c₂.rounds tr' a (bVector c₂ z) hc.srs
  generalize ipaRounds enc₁ (w • c₁.Q) c₂.rounds tr' a (bVector c₂ z) c₁.srs = r1 at i1 i2 i3 ⊢
  generalize ipaRounds enc₂ (w • c₂.Q) c₂.rounds tr' a (bVector c₂ z) c₂.srs = r2 at i1 i2 i3 ⊢
  obtain ⟨L1, R1, af1, t1⟩ := r1
  obtain ⟨L2, R2, af2, t2⟩ := r2
  simp only at i1 i2 i3
  obtain ⟨rfl, rfl⟩ := Prod.mk.inj i3
  simp only
  split
  · exact ⟨⟨i1, i2, rfl⟩, rfl⟩
  · exact ⟨trivial, rfl⟩

theorem genChallenges_eq (tr : Tr) {L₁ R₁ : List G₁} {L₂ R₂ : List G₂} (hL : List.Forall₂ ρ L₁ L₂)
    (hR : List.Forall₂ ρ R₁ R₂) :
    (genChallenges enc₁ tr L₁ R₁ : List F × Tr) = genChallenges enc₂ tr L₂ R₂ := by
  induction hL generalizing tr R₁ R₂ with
  | nil => cases hR <;> simp [genChallenges]
  | cons hl _ ih =>
    cases hR with
    | nil => simp [genChallenges]
    | cons hr hrs =>
      simp only [genChallenges]
      rw [appendPoint_eq h tr hl, appendPoint_eq h _ hr, challenge_eq h]
      generalize ((tr.appendPoint enc₂ _ Label.L).appendPoint enc₂ _ Label.R).challenge enc₂ Label.x = xc
      obtain ⟨x, tr'⟩ := xc
      simp only
      rw [ih tr' hrs]

/-- `rel_zip` with the scalars on the left -/
theorem zip_rel {A : Type} (xs : List A) {l₁ : List G₁} {l₂ : List G₂} (hl : List.Forall₂ ρ l₁ l₂) :
    List.Forall₂ (fun (e₁ : A × G₁) (e₂ : A × G₂) => e₁.1 = e₂.1 ∧ ρ e₁.2 e₂.2) (List.zip xs l₁) (List.zip xs l₂) := by
  exact rel_zip (rel_self xs) hl

/-- `rel_zip` for two lists of points -/
theorem zip2_rel {a₁ b₁ : List G₁} {a₂ b₂ : List G₂} (ha : List.Forall₂ ρ a₁ a₂) (hb : List.Forall₂ ρ b₁ b₂) :
    List.Forall₂ (fun (e₁ : G₁ × G₁) (e₂ : G₂ × G₂) => ρ e₁.1 e₂.1 ∧ ρ e₁.2 e₂.2) (List.zip a₁ b₁) (List.zip a₂ b₂) := by
  exact rel_zip ha hb

/-- the verifier's accumulation `C + Σ xⱼ Lⱼ + xⱼ⁻¹ Rⱼ` -/
theorem accum_rel (xs xInvs : List F) {L₁ R₁ : List G₁} {L₂ R₂ : List G₂} (hL : List.Forall₂ ρ L₁ L₂)
    (hR : List.Forall₂ ρ R₁ R₂) {c₁ : G₁} {c₂ : G₂} (hc : ρ c₁ c₂) :
    ρ ((List.zip xs (List.zip xInvs (List.zip L₁ R₁))).foldl
        (fun (c : G₁) (e : F × F × G₁ × G₁) => c + e.1 • e.2.2.1 + e.2.1 • e.2.2.2) c₁)
      ((List.zip xs (List.zip xInvs (List.zip L₂ R₂))).foldl
        (fun (c : G₂) (e : F × F × G₂ × G₂) => c + e.1 • e.2.2.1 + e.2.1 • e.2.2.2) c₂) := by
  refine List.rel_foldl ?_ hc (rel_zip (rel_self xs) (rel_zip (rel_self xInvs) (rel_zip hL hR)))
  rintro c c' hc ⟨x, xi, l, r⟩ ⟨_, _, l', r'⟩ ⟨rfl, rfl, hl, hr⟩
  exact h.add (h.add hc (h.smul x hl)) (h.smul xi hr)

theorem ipaVerify_eq {c₁ : IpaCfg F G₁} {c₂ : IpaCfg F G₂} (hc : CfgRel ρ c₁ c₂) (tr : Tr)
    {C₁ : G₁} {C₂ : G₂} (hC : ρ C₁ C₂) {p₁ : IpaProof F G₁} {p₂ : IpaProof F G₂} (hp : IpaRel ρ p₁ p₂) (z y : F) :
    ipaVerify enc₁ c₁ tr C₁ p₁ z y = ipaVerify enc₂ c₂ tr C₂ p₂ z y := by
  unfold ipaVerify
  simp only [hp.L.length_eq, hp.R.length_eq, hc.srs.length_eq, hc.rounds, bVector_eq hc, hp.a,
    appendPoint_eq h _ hC, appendScalar_eq h, challenge_eq h]
  generalize ((((tr.domainSep Label.ipa).appendPoint enc₂ C₂ Label.C).appendScalar enc₂ z Label.inputPoint).appendScalar enc₂
    y Label.outputPoint).challenge enc₂ Label.w = wc
  obtain ⟨w, tr'⟩ := wc
  simp only
  rw [genChallenges_eq h tr' hp.L hp.R]
  generalize genChallenges enc₂ tr' p₂.L p₂.R = gc
  obtain ⟨xs, tr''⟩ := gc
  simp only
  have hq := h.smul w hc.Q
  have hacc := accum_rel h xs (batchInvert xs) hp.L hp.R (h.add hC (h.smul y hq))
  -- the other side of the final test is `a • msm srs fs + (b₀ * a) • q`
  rw [h.eq (h.add (h.smul _ (msm_rel h hc.srs _)) (h.smul _ hq)) hacc]

end

/-! ### the multiproof -/

section
variable (h : Rel enc₁ enc₂ ρ)
include h

/-- prover and verifier absorb every query `(C, z, y)`; they differ in where `y` comes from
(`y e.2.1 e.2.2` is `f.getD z 0` for the prover, the given `y` for the verifier) -/
theorem absorb_eq {A : Type} (y : A → Nat → F) (tr : Tr) {Cs₁ : List G₁} {Cs₂ : List G₂}
    (hCs : List.Forall₂ ρ Cs₁ Cs₂) (as : List A) (zs : List Nat) :
    (List.zip Cs₁ (List.zip as zs)).foldl (fun (tr : Tr) (e : G₁ × A × Nat) =>
      let tr := tr.appendPoint enc₁ e.1 Label.C
      let tr := tr.appendScalar enc₁ ((e.2.2 : Nat) : F) Label.z
      tr.appendScalar enc₁ (y e.2.1 e.2.2) Label.y) tr
    = (List.zip Cs₂ (List.zip as zs)).foldl (fun (tr : Tr) (e : G₂ × A × Nat) =>
      let tr := tr.appendPoint enc₂ e.1 Label.C
      let tr := tr.appendScalar enc₂ ((e.2.2 : Nat) : F) Label.z
      tr.appendScalar enc₂ (y e.2.1 e.2.2) Label.y) tr := by
  refine List.rel_foldl (P := Eq) ?_ rfl (rel_zip hCs (rel_self (List.zip as zs)))
  rintro tr _ rfl ⟨C, e⟩ ⟨C', _⟩ ⟨hC, rfl⟩
  simp only [appendPoint_eq h tr hC, appendScalar_eq h]

/-- **`CreateMultiProof` is representation independent**: related commitments and configuration
give related proofs (or failure on both sides) and the same transcript. -/
theorem mpProve_rel {c₁ : IpaCfg F G₁} {c₂ : IpaCfg F G₂} (hc : CfgRel ρ c₁ c₂) (tr : Tr)
    {Cs₁ : List G₁} {Cs₂ : List G₂} (hCs : List.Forall₂ ρ Cs₁ Cs₂) (fs : List (List F)) (zs : List Nat)
    (w : Nat) (order : List Nat) :
    OptRel (MpRel ρ) (mpProve enc₁ c₁ tr Cs₁ fs zs w order).1 (mpProve enc₂ c₂ tr Cs₂ fs zs w order).1 ∧
    (mpProve enc₁ c₁ tr Cs₁ fs zs w order).2 = (mpProve enc₂ c₂ tr Cs₂ fs zs w order).2 := by
  unfold mpProve
  simp only [absorb_eq h (fun (f : List F) z => f.getD z 0) _ hCs, hCs.length_eq, hc.N, hc.weights, challenge_eq h]
  generalize ((List.zip Cs₂ (List.zip fs zs)).foldl _ (tr.domainSep Label.multiproof)).challenge enc₂ Label.r = rc
  obtain ⟨r, tr1⟩ := rc
  simp only
  generalize (List.zipIdx (groupPolys c₂.N fs (powersOf r Cs₂.length) zs w order)).foldl
    (fun (g : List F) (e : Option (List F) × Nat) =>
      (e.1.map fun f => addVec g (c₂.weights.divideOnDomain c₂.N e.2 f)).getD g) (List.replicate c₂.N 0) = g
  have hD := msm_rel h hc.srs g
  rw [appendPoint_eq h tr1 hD]
  generalize (tr1.appendPoint enc₂ (msm c₂.srs g) Label.D).challenge enc₂ Label.t = tc
  obtain ⟨t, tr2⟩ := tc
  simp only
  generalize (List.zip (List.filterMap id (groupPolys c₂.N fs (powersOf r Cs₂.length) zs w order))
    (batchInvert (List.filterMap (fun (e : Option (List F) × Nat) => e.1.map fun _ => t - ((e.2 : Nat) : F))
      (List.zipIdx (groupPolys c₂.N fs (powersOf r Cs₂.length) zs w order))))).foldl
    (fun (hh : List F) (e : List F × F) => addVec hh (e.1.map (· * e.2))) (List.replicate c₂.N 0) = hh
  have hE := msm_rel h hc.srs hh
  rw [appendPoint_eq h tr2 hE]
  obtain ⟨i1, i2⟩ := ipaProve_rel h hc (tr2.appendPoint enc₂ (msm c₂.srs hh) Label.E) (h.sub hE hD)
    (List.zipWith (· - ·) hh g) t
  refine ⟨?_, i2⟩
  generalize (ipaProve enc₁ c₁ _ (msm c₁.srs hh - msm c₁.srs g) _ t).1 = o1 at i1 ⊢
  generalize (ipaProve enc₂ c₂ _ (msm c₂.srs hh - msm c₂.srs g) _ t).1 = o2 at i1 ⊢
  cases o1 <;> cases o2 <;> simp only [OptRel, Option.map] at i1 ⊢
  exact ⟨i1, hD⟩

/-- **`CheckMultiProof` is representation independent**: same decision, error and transcript. -/
theorem mpVerify_eq {c₁ : IpaCfg F G₁} {c₂ : IpaCfg F G₂} (hc : CfgRel ρ c₁ c₂) (tr : Tr)
    {p₁ : MultiProof F G₁} {p₂ : MultiProof F G₂} (hp : MpRel ρ p₁ p₂)
    {Cs₁ : List G₁} {Cs₂ : List G₂} (hCs : List.Forall₂ ρ Cs₁ Cs₂) (ys : List F) (zs : List Nat) :
    mpVerify enc₁ c₁ tr p₁ Cs₁ ys zs = mpVerify enc₂ c₂ tr p₂ Cs₂ ys zs := by
  unfold mpVerify
  simp only [hCs.length_eq, hc.N, absorb_eq h (fun (y : F) _ => y) _ hCs, challenge_eq h]
  generalize ((List.zip Cs₂ (List.zip ys zs)).foldl _ (tr.domainSep Label.multiproof)).challenge enc₂ Label.r = rc
  obtain ⟨r, tr1⟩ := rc
  simp only
  rw [appendPoint_eq h tr1 hp.D]
  generalize (tr1.appendPoint enc₂ p₂.D Label.D).challenge enc₂ Label.t = tc
  obtain ⟨t, tr2⟩ := tc
  simp only
  generalize List.zipWith (fun (p : F) (z : Nat) =>
    p * (batchInvert ((List.range c₂.N).map fun (i : Nat) => t - (i : F))).getD z 0) (powersOf r Cs₂.length) zs = scalars
  have hE := msm_rel h hCs scalars
  rw [appendPoint_eq h tr2 hE, ipaVerify_eq h hc _ (h.sub hE hp.D) hp.ipa t _]

end

end GoIpa.Sim
