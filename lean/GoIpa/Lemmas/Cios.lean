/-
  The CIOS Montgomery multiplication of `_mulGeneric` and the reduction of `_fromMontGeneric`,
  at limb level: exactness of the `madd` helpers for all 64-bit operands, the round equation
  `t'·2^64 = t + v·y + m·q`, absence of overflow in the "no-carry" variant, and the result.
-/
import GoIpa.Props.C15
import Mathlib.Tactic.Ring
import Mathlib.Tactic.LinearCombination
import Mathlib.Data.Nat.ModEq
namespace GoIpa.Cios
open GoIpa GoIpa.Limbs

theorem mul_bound (a b : Nat) (ha : a < W) (hb : b < W) : a * b ≤ (W - 1) * (W - 1) :=
  Nat.mul_le_mul (by omega) (by omega)

/-- `bits.Mul64` is exact -/
theorem mul64_spec (a b : Nat) : (mul64 a b).1 * W + (mul64 a b).2 = a * b := by
  unfold mul64
  have := Nat.div_add_mod (a * b) W
  simp only; rw [Nat.mul_comm]; exact this

/-- `madd0 a b c = ⌊(a·b + c)/2^64⌋` for all 64-bit operands -/
theorem madd0_spec (a b c : Nat) (ha : a < W) (hb : b < W) (hc : c < W) :
    madd0 a b c = (a * b + c) / W := by
  have hp := mul_bound a b ha hb
  unfold madd0 mul64 add64
  simp only
  generalize a * b = p at *
  unfold W at *
  omega

theorem madd1_spec (a b c : Nat) (ha : a < W) (hb : b < W) (hc : c < W) :
    madd1 a b c = ((a * b + c) / W, (a * b + c) % W) := by
  have hp := mul_bound a b ha hb
  unfold madd1 mul64 add64
  simp only
  generalize a * b = p at *
  unfold W at *
  refine Prod.ext ?_ ?_ <;> simp only <;> omega

theorem madd2_spec (a b c d : Nat) (ha : a < W) (hb : b < W) (hc : c < W) (hd : d < W) :
    madd2 a b c d = ((a * b + c + d) / W, (a * b + c + d) % W) := by
  have hp := mul_bound a b ha hb
  unfold madd2 mul64 add64
  simp only
  generalize a * b = p at *
  unfold W at *
  refine Prod.ext ?_ ?_ <;> simp only <;> omega

/-- `madd3`: the low word is exact, the high word is `⌊(a·b+c+d)/2^64⌋ + e` wrapped -/
theorem madd3_spec (a b c d e : Nat) (ha : a < W) (hb : b < W) (hc : c < W) (hd : d < W) (he : e < W) :
    madd3 a b c d e = (((a * b + c + d) / W + e) % W, (a * b + c + d) % W) := by
  have hp := mul_bound a b ha hb
  unfold madd3 mul64 add64
  simp only
  generalize a * b = p at *
  unfold W at *
  refine Prod.ext ?_ ?_ <;> simp only <;> omega

/-- one CIOS round as arithmetic on naturals (`pᵢ` stands for `v·yᵢ`) -/
def roundM (p0 p1 p2 p3 : Nat) (t : L4) : L4 :=
  let a0 := p0 + t.l0
  let m := (a0 % W * qInvNeg) % W
  let c2 := (m * q0 + a0 % W) / W
  let a1 := p1 + a0 / W + t.l1
  let b1 := m * q1 + c2 + a1 % W
  let a2 := p2 + a1 / W + t.l2
  let b2 := m * q2 + b1 / W + a2 % W
  let a3 := p3 + a2 / W + t.l3
  let b3 := m * q3 + a3 % W + b2 / W
  ⟨b1 % W, b2 % W, b3 % W, (b3 / W + a3 / W) % W⟩

/-- the Montgomery factor of a round -/
def mOf (p0 t0 : Nat) : Nat := ((p0 + t0) % W * qInvNeg) % W

/-- **Round equation.** `t'·2^64 = t + Σ pᵢ·2^(64i) + m·q`, with all result limbs below `2^64`,
whenever the right-hand side fits in five limbs. -/
theorem roundM_spec (p0 p1 p2 p3 : Nat) (t : L4) (ht : t.ok)
    (h0 : p0 ≤ (W - 1) * (W - 1)) (h1 : p1 ≤ (W - 1) * (W - 1)) (h2 : p2 ≤ (W - 1) * (W - 1))
    (h3 : p3 ≤ (W - 1) * (W - 1))
    (hS : t.val + (p0 + W * p1 + W * W * p2 + W * W * W * p3) + mOf p0 t.l0 * R < W * W * W * W * W) :
    (roundM p0 p1 p2 p3 t).ok ∧
    (roundM p0 p1 p2 p3 t).val * W =
      t.val + (p0 + W * p1 + W * W * p2 + W * W * W * p3) + mOf p0 t.l0 * R := by
  obtain ⟨t0, t1, t2, t3⟩ := t
  obtain ⟨k0, k1, k2, k3⟩ := ht
  unfold roundM mOf L4.ok L4.val R W q0 q1 q2 q3 qInvNeg at *
  simp only at *
  omega

theorem q_lt : q0 < W ∧ q1 < W ∧ q2 < W ∧ q3 < W := by decide

theorem div_lt_W (x : Nat) (h : x < W * W) : x / W < W := Nat.div_lt_of_lt_mul h

/-! Every word the rounds compute is the low or the high half of `a·b`, `a·b + c` or `a·b + c + d`
with 64-bit operands, so it is again a 64-bit word.  These are the side conditions under which `simp`
may replace each `madd` by its value in the two theorems below; they nest as deep as the carries do. -/

theorem lo_lt (x : Nat) : x % W < W := Nat.mod_lt _ (by decide)
theorem hi0_lt {a b : Nat} (ha : a < W) (hb : b < W) : a * b / W < W :=
  div_lt_W _ (by have := mul_bound a b ha hb; unfold W at *; omega)
theorem hi1_lt {a b c : Nat} (ha : a < W) (hb : b < W) (hc : c < W) : (a * b + c) / W < W :=
  div_lt_W _ (by have := mul_bound a b ha hb; unfold W at *; omega)
theorem hi2_lt {a b c d : Nat} (ha : a < W) (hb : b < W) (hc : c < W) (hd : d < W) : (a * b + c + d) / W < W :=
  div_lt_W _ (by have := mul_bound a b ha hb; unfold W at *; omega)

/-- the code of a later round is `roundM` on the products `v·yᵢ` -/
theorem mulRound_eq (v : Nat) (y t : L4) (hv : v < W) (hy : y.ok) (ht : t.ok) :
    mulRound v y t false = roundM (v * y.l0) (v * y.l1) (v * y.l2) (v * y.l3) t := by
  obtain ⟨hy0, hy1, hy2, hy3⟩ := hy
  obtain ⟨ht0, ht1, ht2, ht3⟩ := ht
  obtain ⟨hq0, hq1, hq2, hq3⟩ := q_lt
  unfold mulRound roundM
  simp (maxDischargeDepth := 8) only [Bool.false_eq_true, ↓reduceIte, madd0_spec, madd1_spec, madd2_spec,
    madd3_spec, lo_lt, hi1_lt, hi2_lt, hv, hy0, hy1, hy2, hy3, ht0, ht1, ht2, ht3, hq0, hq1, hq2, hq3]

/-- the code of round 0 (which starts from `t = 0` and never reads `t`) is `roundM` on zero -/
theorem mulRound_first_eq (v : Nat) (y t : L4) (hv : v < W) (hy : y.ok) :
    mulRound v y t true = roundM (v * y.l0) (v * y.l1) (v * y.l2) (v * y.l3) ⟨0, 0, 0, 0⟩ := by
  obtain ⟨hy0, hy1, hy2, hy3⟩ := hy
  obtain ⟨hq0, hq1, hq2, hq3⟩ := q_lt
  unfold mulRound roundM mul64
  simp (maxDischargeDepth := 8) only [↓reduceIte, Nat.add_zero, madd0_spec, madd1_spec, madd2_spec,
    madd3_spec, lo_lt, hi0_lt, hi1_lt, hi2_lt, hv, hy0, hy1, hy2, hy3, hq0, hq1, hq2, hq3]

theorem val_mul (v : Nat) (y : L4) :
    v * y.l0 + W * (v * y.l1) + W * W * (v * y.l2) + W * W * W * (v * y.l3) = v * y.val := by
  unfold L4.val; ring

/-- **One CIOS round on the invariant `t < 2q`.** -/
theorem roundM_step (v : Nat) (y t : L4) (hv : v < W) (hy : y.ok) (hyr : y.val < R) (ht : t.ok)
    (htr : t.val < 2 * R) :
    let t' := roundM (v * y.l0) (v * y.l1) (v * y.l2) (v * y.l3) t
    t'.ok ∧ t'.val < 2 * R ∧ t'.val * W = t.val + v * y.val + mOf (v * y.l0) t.l0 * R := by
  intro t'
  have hm : mOf (v * y.l0) t.l0 < W := Nat.mod_lt _ (by decide)
  have hvy : v * y.val ≤ (W - 1) * (R - 1) := Nat.mul_le_mul (by omega) (by omega)
  have hmr : mOf (v * y.l0) t.l0 * R ≤ (W - 1) * R := Nat.mul_le_mul (by omega) (Nat.le_refl _)
  obtain ⟨hy0, hy1, hy2, hy3⟩ := hy
  have hS : t.val + (v * y.l0 + W * (v * y.l1) + W * W * (v * y.l2) + W * W * W * (v * y.l3)) +
      mOf (v * y.l0) t.l0 * R < W * W * W * W * W := by
    rw [val_mul]
    generalize v * y.val = a at *
    generalize mOf (v * y.l0) t.l0 * R = b at *
    unfold R W at *
    omega
  obtain ⟨ok, hval⟩ := roundM_spec _ _ _ _ t ht (mul_bound v y.l0 hv hy0) (mul_bound v y.l1 hv hy1)
    (mul_bound v y.l2 hv hy2) (mul_bound v y.l3 hv hy3) hS
  rw [val_mul] at hval
  refine ⟨ok, ?_, hval⟩
  show t'.val < 2 * R
  have : t'.val * W = t.val + v * y.val + mOf (v * y.l0) t.l0 * R := hval
  generalize v * y.val = a at *
  generalize mOf (v * y.l0) t.l0 * R = b at *
  generalize t'.val = tv at *
  unfold R W at *
  omega

theorem zero_ok : (⟨0, 0, 0, 0⟩ : L4).ok ∧ (⟨0, 0, 0, 0⟩ : L4).val = 0 := by
  unfold L4.ok L4.val W; simp

/-- **CIOS Montgomery multiplication** (`_mulGeneric`).  For all limb vectors `x`, `y` with
`y < q`: the result is fully reduced and `mul(x,y)·2^256 ≡ x·y (mod q)`. -/
theorem mulG_correct (x y : L4) (hx : x.ok) (hy : y.ok) (hyr : y.val < R) :
    (mulG x y).ok ∧ (mulG x y).val < R ∧
      ((mulG x y).val * (W * W * W * W)) % R = (x.val * y.val) % R := by
  obtain ⟨hx0, hx1, hx2, hx3⟩ := hx
  unfold mulG
  simp only
  rw [mulRound_first_eq x.l0 y _ hx0 hy]
  obtain ⟨ok1, r1, e1⟩ := roundM_step x.l0 y ⟨0, 0, 0, 0⟩ hx0 hy hyr zero_ok.1 (by rw [zero_ok.2]; decide)
  generalize roundM (x.l0 * y.l0) (x.l0 * y.l1) (x.l0 * y.l2) (x.l0 * y.l3) ⟨0, 0, 0, 0⟩ = t1 at *
  rw [mulRound_eq x.l1 y t1 hx1 hy ok1]
  obtain ⟨ok2, r2, e2⟩ := roundM_step x.l1 y t1 hx1 hy hyr ok1 r1
  generalize roundM (x.l1 * y.l0) (x.l1 * y.l1) (x.l1 * y.l2) (x.l1 * y.l3) t1 = t2 at *
  rw [mulRound_eq x.l2 y t2 hx2 hy ok2]
  obtain ⟨ok3, r3, e3⟩ := roundM_step x.l2 y t2 hx2 hy hyr ok2 r2
  generalize roundM (x.l2 * y.l0) (x.l2 * y.l1) (x.l2 * y.l2) (x.l2 * y.l3) t2 = t3 at *
  rw [mulRound_eq x.l3 y t3 hx3 hy ok3]
  obtain ⟨ok4, r4, e4⟩ := roundM_step x.l3 y t3 hx3 hy hyr ok3 r3
  generalize roundM (x.l3 * y.l0) (x.l3 * y.l1) (x.l3 * y.l2) (x.l3 * y.l3) t3 = t4 at *
  obtain ⟨okr, hmod, hlt⟩ := C15.reduceG_correct t4 ok4 r4
  refine ⟨okr, hlt, ?_⟩
  rw [hmod, Nat.mod_mul_mod]
  have hxy : x.val * y.val = x.l0 * y.val + W * (x.l1 * y.val) + W * W * (x.l2 * y.val) + W * W * W * (x.l3 * y.val) := by
    unfold L4.val; ring
  rw [zero_ok.2] at e1
  have key : t4.val * (W * W * W * W) = x.val * y.val +
      (mOf (x.l0 * y.l0) 0 + W * mOf (x.l1 * y.l0) t1.l0 + W * W * mOf (x.l2 * y.l0) t2.l0 +
        W * W * W * mOf (x.l3 * y.l0) t3.l0) * R := by
    rw [hxy]
    linear_combination e1 + W * e2 + W * W * e3 + W * W * W * e4
  rw [key, Nat.add_mul_mod_self_right]

/-! ### `_fromMontGeneric` -/

def fmRoundM (z : L4) : L4 :=
  let m := (z.l0 * qInvNeg) % W
  let c0 := (m * q0 + z.l0) / W
  let b1 := m * q1 + z.l1 + c0
  let b2 := m * q2 + z.l2 + b1 / W
  let b3 := m * q3 + z.l3 + b2 / W
  ⟨b1 % W, b2 % W, b3 % W, b3 / W⟩

theorem fromMontRound_eq (z : L4) (hz : z.ok) : fromMontRound z = fmRoundM z := by
  obtain ⟨h0, h1, h2, h3⟩ := hz
  obtain ⟨hq0, hq1, hq2, hq3⟩ := q_lt
  unfold fromMontRound fmRoundM
  simp (maxDischargeDepth := 8) only [madd0_spec, madd2_spec, lo_lt, hi1_lt, hi2_lt, h0, h1, h2, h3,
    hq0, hq1, hq2, hq3]

/-- one reduction round: `z'·2^64 = z + m·q`, never overflowing -/
theorem fmRoundM_spec (z : L4) (hz : z.ok) :
    (fmRoundM z).ok ∧ (fmRoundM z).val * W = z.val + (z.l0 * qInvNeg % W) * R := by
  obtain ⟨z0, z1, z2, z3⟩ := z
  obtain ⟨h0, h1, h2, h3⟩ := hz
  unfold fmRoundM L4.ok L4.val R W q0 q1 q2 q3 qInvNeg at *
  simp only at *
  omega

/-- **`_fromMontGeneric`.** For every limb vector `z`: the result is fully reduced and
`fromMont(z)·2^256 ≡ z (mod q)`. -/
theorem fromMontG_correct (z : L4) (hz : z.ok) :
    (fromMontG z).ok ∧ (fromMontG z).val < R ∧ ((fromMontG z).val * (W * W * W * W)) % R = z.val % R := by
  unfold fromMontG
  have hW : 0 < W := by decide
  rw [fromMontRound_eq z hz]
  obtain ⟨ok1, e1⟩ := fmRoundM_spec z hz
  have m1 : z.l0 * qInvNeg % W < W := Nat.mod_lt _ hW
  generalize z.l0 * qInvNeg % W = k1 at *
  generalize fmRoundM z = z1 at *
  rw [fromMontRound_eq z1 ok1]
  obtain ⟨ok2, e2⟩ := fmRoundM_spec z1 ok1
  have m2 : z1.l0 * qInvNeg % W < W := Nat.mod_lt _ hW
  generalize z1.l0 * qInvNeg % W = k2 at *
  generalize fmRoundM z1 = z2 at *
  rw [fromMontRound_eq z2 ok2]
  obtain ⟨ok3, e3⟩ := fmRoundM_spec z2 ok2
  have m3 : z2.l0 * qInvNeg % W < W := Nat.mod_lt _ hW
  generalize z2.l0 * qInvNeg % W = k3 at *
  generalize fmRoundM z2 = z3 at *
  rw [fromMontRound_eq z3 ok3]
  obtain ⟨ok4, e4⟩ := fmRoundM_spec z3 ok3
  have m4 : z3.l0 * qInvNeg % W < W := Nat.mod_lt _ hW
  generalize z3.l0 * qInvNeg % W = k4 at *
  generalize fmRoundM z3 = z4 at *
  have hzv : z.val < W * W * W * W := by
    obtain ⟨h0, h1, h2, h3⟩ := hz
    unfold L4.val W at *; omega
  have key : z4.val * (W * W * W * W) = z.val + (k1 + W * k2 + W * W * k3 + W * W * W * k4) * R := by
    linear_combination e1 + W * e2 + W * W * e3 + W * W * W * e4
  have r4 : z4.val < 2 * R := by
    have hk : k1 + W * k2 + W * W * k3 + W * W * W * k4 ≤ W * W * W * W - 1 := by
      unfold W at *; omega
    have hkr := Nat.mul_le_mul_right R hk
    generalize (k1 + W * k2 + W * W * k3 + W * W * W * k4) * R = kr at *
    have hb : (W * W * W * W - 1) * R + W * W * W * W ≤ 2 * R * (W * W * W * W) - 1 := by decide
    generalize (W * W * W * W - 1) * R = c at *
    have hpos : 0 < W * W * W * W := by decide
    by_contra hge
    have : 2 * R * (W * W * W * W) ≤ z4.val * (W * W * W * W) := Nat.mul_le_mul_right _ (by omega)
    omega
  obtain ⟨okr, hmod, hlt⟩ := C15.reduceG_correct z4 ok4 r4
  refine ⟨okr, hlt, ?_⟩
  rw [hmod, Nat.mod_mul_mod, key, Nat.add_mul_mod_self_right]

/-! ### Montgomery form -/

/-- `2^256`, the Montgomery radix -/
def R256 : Nat := W * W * W * W

theorem coprime_radix : Nat.Coprime R256 R := by decide
theorem gcd_radix : Nat.gcd R R256 = 1 := by decide

/-- `x` is the Montgomery representation of the residue `a` -/
def Repr (x : L4) (a : Nat) : Prop := x.val ≡ a * R256 [MOD R]

/-- **`Mul` on Montgomery representations is multiplication modulo `r`.** -/
theorem mulG_repr (x y : L4) (a b : Nat) (hx : x.ok) (hy : y.ok) (hyr : y.val < R)
    (ha : Repr x a) (hb : Repr y b) : Repr (mulG x y) (a * b) ∧ (mulG x y).val < R ∧ (mulG x y).ok := by
  obtain ⟨ok, lt, h⟩ := mulG_correct x y hx hy hyr
  refine ⟨?_, lt, ok⟩
  unfold Repr at *
  have h1 : (mulG x y).val * R256 ≡ x.val * y.val [MOD R] := h
  have h2 : x.val * y.val ≡ (a * R256) * (b * R256) [MOD R] := Nat.ModEq.mul ha hb
  have h3 : (mulG x y).val * R256 ≡ (a * b * R256) * R256 [MOD R] := by
    refine (h1.trans h2).trans ?_
    rw [show a * R256 * (b * R256) = a * b * R256 * R256 by ring]
  exact Nat.ModEq.cancel_right_of_coprime gcd_radix h3

/-- **`FromMont` returns the residue itself.** -/
theorem fromMontG_repr (x : L4) (a : Nat) (hx : x.ok) (ha : Repr x a) :
    (fromMontG x).val = a % R ∧ (fromMontG x).ok := by
  obtain ⟨ok, lt, h⟩ := fromMontG_correct x hx
  refine ⟨?_, ok⟩
  have h1 : (fromMontG x).val * R256 ≡ x.val [MOD R] := h
  have h2 : (fromMontG x).val * R256 ≡ a * R256 [MOD R] := h1.trans ha
  have h3 : (fromMontG x).val ≡ a [MOD R] :=
    Nat.ModEq.cancel_right_of_coprime gcd_radix h2
  have : (fromMontG x).val % R = a % R := h3
  rw [← this, Nat.mod_eq_of_lt lt]

end GoIpa.Cios
