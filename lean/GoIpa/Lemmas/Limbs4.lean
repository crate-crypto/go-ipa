/-
  Four 64-bit limbs as one number below 2^256: what `bits.Add64` / `bits.Sub64` do on one word, what
  the four-word carry and borrow chains built from them do on the values, and that comparing limbs
  from the top compares the values.  Every routine of `fr/element.go` that adds, subtracts or compares
  limb vectors is one of these chains; the later files use `add4` / `sub4` through the lemmas here and
  never unfold `add64` / `sub64` again.
-/
import GoIpa.Model.FrLimbs
import GoIpa.Model.Field
import GoIpa.Model.Big
import Mathlib.Tactic.LinearCombination
namespace GoIpa.Limbs

theorem L4.ok.val_lt {a : L4} (h : a.ok) : a.val < W * W * W * W := by
  obtain ⟨h0, h1, h2, h3⟩ := h
  unfold L4.val W at *
  omega

theorem L4.val_mod_two (a : L4) : a.val % 2 = a.l0 % 2 := by
  unfold L4.val W
  omega

theorem limb_0 (w : L4) : Big.limb w (0 : Int) = w.l0 := rfl
theorem limb_1 (w : L4) : Big.limb w (1 : Int) = w.l1 := rfl
theorem limb_2 (w : L4) : Big.limb w (2 : Int) = w.l2 := rfl
theorem limb_3 (w : L4) : Big.limb w (3 : Int) = w.l3 := rfl

theorem ofNat_spec {n : Nat} (h : n < W * W * W * W) : (ofNat n).ok ∧ (ofNat n).val = n := by
  unfold ofNat L4.ok L4.val W at *
  dsimp only
  omega

theorem qL_ok : qL.ok := by unfold L4.ok; decide
theorem qL_val : qL.val = R := by decide
theorem R_lt : R < W * W * W * W := by decide
theorem two_R_lt : 2 * R < W * W * W * W := by decide

/-! ### one word -/

/-- `bits.Sub64`: `x − y − b = d − 2^64·b'`, written without subtraction -/
theorem sub64_spec {x y b : Nat} (hx : x < W) (hy : y < W) (hb : b ≤ 1) :
    (sub64 x y b).1 < W ∧ (sub64 x y b).2 ≤ 1 ∧ (sub64 x y b).1 + y + b = x + W * (sub64 x y b).2 := by
  unfold sub64 W at *
  dsimp only
  split <;> omega

/-- `bits.Add64`: `x + y + c = s + 2^64·c'` -/
theorem add64_spec {x y c : Nat} (hx : x < W) (hy : y < W) (hc : c ≤ 1) :
    (add64 x y c).1 < W ∧ (add64 x y c).2 ≤ 1 ∧ x + y + c = (add64 x y c).1 + W * (add64 x y c).2 := by
  unfold add64 W at *
  dsimp only
  omega

/- From here on the two primitives are known by their specifications only.  Left reducible, every `rfl`
and every unification that meets `(sub64 ..).2` tries to evaluate its `if x < y + b` on symbolic
operands, four levels deep, and a one-line proof costs as much as a long one.  The later files that
compare chains as terms (`Tie.FrLimbs`, `Tie.FrInverse`, `Tie.FrMisc`) repeat this line. -/
attribute [local irreducible] sub64 add64

/-! ### four words -/

/-- `a − b` limb by limb: the difference modulo 2^256 and the borrow out of the top limb -/
def sub4 (a b : L4) : L4 × Nat :=
  let p0 := sub64 a.l0 b.l0 0
  let p1 := sub64 a.l1 b.l1 p0.2
  let p2 := sub64 a.l2 b.l2 p1.2
  let p3 := sub64 a.l3 b.l3 p2.2
  (⟨p0.1, p1.1, p2.1, p3.1⟩, p3.2)

/-- `a + b` limb by limb: the sum modulo 2^256 and the carry out of the top limb -/
def add4 (a b : L4) : L4 × Nat :=
  let p0 := add64 a.l0 b.l0 0
  let p1 := add64 a.l1 b.l1 p0.2
  let p2 := add64 a.l2 b.l2 p1.2
  let p3 := add64 a.l3 b.l3 p2.2
  (⟨p0.1, p1.1, p2.1, p3.1⟩, p3.2)

/-! the routines of the model are these chains, with the modulus `qL` as one operand -/

theorem subQ_eq (z : L4) : subQ z = (sub4 z qL).1 := rfl
theorem addG_eq (x y : L4) : addG x y = reduceG (add4 x y).1 := rfl
theorem subG_eq (x y : L4) :
    subG x y = if (sub4 x y).2 ≠ 0 then (add4 (sub4 x y).1 qL).1 else (sub4 x y).1 := rfl
theorem negG_eq (x : L4) :
    negG x = if x.l0 = 0 ∧ x.l1 = 0 ∧ x.l2 = 0 ∧ x.l3 = 0 then ⟨0, 0, 0, 0⟩ else (sub4 qL x).1 := rfl

/-- A borrow chain for `s − y = p` is a carry chain for `p + y = s`: four one-word equations, each
handing its carry to the next, add up to one equation between the values. -/
theorem carry4 {p y s : L4} {c0 c1 c2 c3 : Nat}
    (e0 : p.l0 + y.l0 + 0 = s.l0 + W * c0) (e1 : p.l1 + y.l1 + c0 = s.l1 + W * c1)
    (e2 : p.l2 + y.l2 + c1 = s.l2 + W * c2) (e3 : p.l3 + y.l3 + c2 = s.l3 + W * c3) :
    p.val + y.val = s.val + W * W * W * W * c3 := by
  unfold L4.val
  linear_combination e0 + W * e1 + W * W * e2 + W * W * W * e3

theorem sub4_spec {a b : L4} (ha : a.ok) (hb : b.ok) :
    (sub4 a b).1.ok ∧ (sub4 a b).2 ≤ 1 ∧
      (sub4 a b).1.val + b.val = a.val + W * W * W * W * (sub4 a b).2 := by
  obtain ⟨l0, c0, e0⟩ := sub64_spec ha.1 hb.1 (Nat.zero_le 1)
  obtain ⟨l1, c1, e1⟩ := sub64_spec ha.2.1 hb.2.1 c0
  obtain ⟨l2, c2, e2⟩ := sub64_spec ha.2.2.1 hb.2.2.1 c1
  obtain ⟨l3, c3, e3⟩ := sub64_spec ha.2.2.2 hb.2.2.2 c2
  exact ⟨⟨l0, l1, l2, l3⟩, c3, carry4 e0 e1 e2 e3⟩

theorem add4_spec {a b : L4} (ha : a.ok) (hb : b.ok) :
    (add4 a b).1.ok ∧ (add4 a b).2 ≤ 1 ∧
      a.val + b.val = (add4 a b).1.val + W * W * W * W * (add4 a b).2 := by
  obtain ⟨l0, c0, e0⟩ := add64_spec ha.1 hb.1 (Nat.zero_le 1)
  obtain ⟨l1, c1, e1⟩ := add64_spec ha.2.1 hb.2.1 c0
  obtain ⟨l2, c2, e2⟩ := add64_spec ha.2.2.1 hb.2.2.1 c1
  obtain ⟨l3, c3, e3⟩ := add64_spec ha.2.2.2 hb.2.2.2 c2
  exact ⟨⟨l0, l1, l2, l3⟩, c3, carry4 e0 e1 e2 e3⟩

/-- the borrow out of the top limb says which operand is larger -/
theorem sub4_borrow {a b : L4} (ha : a.ok) (hb : b.ok) : (sub4 a b).2 = if a.val < b.val then 1 else 0 := by
  obtain ⟨ok, c, e⟩ := sub4_spec ha hb
  have := ok.val_lt
  have := ha.val_lt
  split <;> rcases Nat.le_one_iff_eq_zero_or_eq_one.mp c with h | h <;> rw [h] at e ⊢ <;> omega

/-- no borrow: the plain difference -/
theorem sub4_of_le {a b : L4} (ha : a.ok) (hb : b.ok) (h : b.val ≤ a.val) : (sub4 a b).1.val = a.val - b.val := by
  obtain ⟨_, _, e⟩ := sub4_spec ha hb
  rw [sub4_borrow ha hb, if_neg (Nat.not_lt.mpr h)] at e
  omega

/-- borrow: the difference plus 2^256 -/
theorem sub4_of_lt {a b : L4} (ha : a.ok) (hb : b.ok) (h : a.val < b.val) :
    (sub4 a b).1.val + b.val = a.val + W * W * W * W := by
  obtain ⟨_, _, e⟩ := sub4_spec ha hb
  rw [sub4_borrow ha hb, if_pos h] at e
  omega

theorem sub4_val {a b : L4} (ha : a.ok) (hb : b.ok) :
    (sub4 a b).1.val = (a.val + W * W * W * W - b.val) % (W * W * W * W) := by
  have := ha.val_lt
  have := hb.val_lt
  by_cases h : a.val < b.val
  · have e := sub4_of_lt ha hb h
    rw [Nat.mod_eq_of_lt (by omega)]
    omega
  · have e := sub4_of_le ha hb (Nat.le_of_not_lt h)
    rw [show a.val + W * W * W * W - b.val = a.val - b.val + W * W * W * W by omega, Nat.add_mod_right,
      Nat.mod_eq_of_lt (by omega)]
    exact e

theorem add4_val {a b : L4} (ha : a.ok) (hb : b.ok) :
    (add4 a b).1.val = (a.val + b.val) % (W * W * W * W) := by
  obtain ⟨ok, c, e⟩ := add4_spec ha hb
  rw [e, Nat.add_mul_mod_self_left, Nat.mod_eq_of_lt ok.val_lt]

/-- the sum fits: no carry, the plain sum -/
theorem add4_of_lt {a b : L4} (ha : a.ok) (hb : b.ok) (h : a.val + b.val < W * W * W * W) :
    (add4 a b).1.val = a.val + b.val := by
  rw [add4_val ha hb, Nat.mod_eq_of_lt h]

/-! ### order: comparing limbs from the top compares the values -/

theorem L4.ok.lt2 {a : L4} (h : a.ok) : a.l0 + W * a.l1 < W * W := by
  obtain ⟨h0, h1, h2, h3⟩ := h
  unfold W at *
  omega

theorem L4.ok.lt3 {a : L4} (h : a.ok) : a.l0 + W * a.l1 + W * W * a.l2 < W * W * W := by
  obtain ⟨h0, h1, h2, h3⟩ := h
  unfold W at *
  omega

/-- numbers written `r + M·A` with `r < M` are compared by comparing `A` first, then `r` -/
theorem lt_top {M r r' A B : Nat} (hr : r < M) (hr' : r' < M) :
    r + M * A < r' + M * B ↔ A < B ∨ (A = B ∧ r < r') := by
  rcases Nat.lt_trichotomy A B with h | h | h
  · have := Nat.mul_le_mul_left M (Nat.succ_le_of_lt h)
    rw [Nat.mul_succ] at this
    omega
  · subst h
    omega
  · have := Nat.mul_le_mul_left M (Nat.succ_le_of_lt h)
    rw [Nat.mul_succ] at this
    omega

/-- `L4.val` is `r + M·A` three times over, with `M = 2^192, 2^128, 2^64` -/
theorem val_lt_iff {a b : L4} (ha : a.ok) (hb : b.ok) :
    a.val < b.val ↔ a.l3 < b.l3 ∨ (a.l3 = b.l3 ∧ (a.l2 < b.l2 ∨ (a.l2 = b.l2 ∧
      (a.l1 < b.l1 ∨ (a.l1 = b.l1 ∧ a.l0 < b.l0))))) := by
  unfold L4.val
  rw [lt_top ha.lt3 hb.lt3, lt_top ha.lt2 hb.lt2, lt_top ha.1 hb.1]

theorem val_inj {a b : L4} (ha : a.ok) (hb : b.ok) (h : a.val = b.val) : a = b := by
  have h1 := (val_lt_iff ha hb).not.mp (by omega)
  have h2 := (val_lt_iff hb ha).not.mp (by omega)
  obtain ⟨a0, a1, a2, a3⟩ := a
  obtain ⟨b0, b1, b2, b3⟩ := b
  simp only [L4.mk.injEq] at *
  omega

theorem cmp_nat (x y : Nat) : Big.cmp (x : Int) (y : Int) = if x > y then 1 else if x < y then -1 else 0 := by
  unfold Big.cmp
  split <;> split <;> omega

/-- the three-way form of `lt_top`, for `big.Int.Cmp` -/
theorem cmp_top {M r r' A B : Nat} (hr : r < M) (hr' : r' < M) :
    Big.cmp ((r + M * A : Nat) : Int) ((r' + M * B : Nat) : Int) =
      if A > B then 1 else if A < B then -1 else Big.cmp (r : Int) (r' : Int) := by
  have h1 := lt_top (A := A) (B := B) hr hr'
  have h2 := lt_top (A := B) (B := A) hr' hr
  rw [cmp_nat, cmp_nat]
  rcases Nat.lt_trichotomy A B with h | h | h
  · rw [if_neg (by omega), if_pos (by omega), if_neg (by omega), if_pos h]
  · subst h
    rw [if_neg (Nat.lt_irrefl A), if_neg (Nat.lt_irrefl A)]
    split <;> split <;> omega
  · rw [if_pos (by omega), if_pos h]

theorem cmp_val {a b : L4} (ha : a.ok) (hb : b.ok) :
    Big.cmp (a.val : Int) (b.val : Int) =
     if a.l3 > b.l3 then (1 : Int) else if a.l3 < b.l3 then -1 else
     if a.l2 > b.l2 then 1 else if a.l2 < b.l2 then -1 else
     if a.l1 > b.l1 then 1 else if a.l1 < b.l1 then -1 else
     if a.l0 > b.l0 then 1 else if a.l0 < b.l0 then -1 else 0 := by
  unfold L4.val
  rw [cmp_top ha.lt3 hb.lt3, cmp_top ha.lt2 hb.lt2, cmp_top ha.1 hb.1, cmp_nat]

end GoIpa.Limbs
