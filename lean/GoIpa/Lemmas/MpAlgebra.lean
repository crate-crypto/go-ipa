/-
  Algebra of the multiproof: sums of vectors, evaluation functionals, regrouping of sums over
  evaluation points into sums over openings.
-/
import Mathlib.Tactic.Ring
import Mathlib.Tactic.Abel
import Mathlib.Tactic.Module
import Mathlib.Tactic.FieldSimp
import Mathlib.Tactic.LinearCombination
import Mathlib.Algebra.BigOperators.Group.List.Basic
import GoIpa.Lemmas.Grouping
import GoIpa.Lemmas.Vec
import GoIpa.Lemmas.IpaAlgebra
import GoIpa.Lemmas.DivideOnDomain
import GoIpa.Props.C04
namespace GoIpa.Mp
open GoIpa GoIpa.Grouping

variable {F G : Type} [Field F] [DecidableEq F] [AddCommGroup G] [Module F G]

/-- sum of a list of vectors, as the prover accumulates them -/
def sumVecs (N : Nat) (vs : List (List F)) : List F := vs.foldl addVec (List.replicate N 0)

theorem foldl_addVec_spec (N : Nat) (vs : List (List F)) (hv : ∀ v ∈ vs, v.length = N) (init : List F)
    (hi : init.length = N) :
    (vs.foldl addVec init).length = N ∧
    ∀ j, (vs.foldl addVec init).getD j 0 = init.getD j 0 + (vs.map fun v => v.getD j 0).sum := by
  induction vs generalizing init with
  | nil => simp [hi]
  | cons v vs ih =>
    have hvl : v.length = N := hv v (by simp)
    have hl : (addVec init v).length = N := by rw [addVec_length, hi, hvl]; simp
    obtain ⟨l1, l2⟩ := ih (fun u hu => hv u (by simp [hu])) (addVec init v) hl
    refine ⟨l1, ?_⟩
    intro j
    simp only [List.foldl_cons, List.map_cons, List.sum_cons]
    rw [l2 j, addVec_getD _ _ (by rw [hi, hvl])]
    ring

theorem sumVecs_spec (N : Nat) (vs : List (List F)) (hv : ∀ v ∈ vs, v.length = N) :
    (sumVecs N vs).length = N ∧ ∀ j, (sumVecs N vs).getD j 0 = (vs.map fun v => v.getD j 0).sum := by
  obtain ⟨a, b⟩ := foldl_addVec_spec N vs hv (List.replicate N 0) (by simp)
  refine ⟨a, ?_⟩
  intro j
  rw [show sumVecs N vs = vs.foldl addVec (List.replicate N 0) from rfl, b j, replicate_getD_zero, zero_add]

/-- the present groups with their evaluation points, in increasing order -/
def present (groups : Groups F) (off : Nat) : List (Nat × List F) :=
  (List.zipIdx groups off).filterMap fun e => e.1.map fun f => (e.2, f)

theorem present_mem (groups : Groups F) (off z : Nat) (f : List F) :
    (z, f) ∈ present groups off ↔ off ≤ z ∧ groups[z - off]? = some (some f) := by
  simp only [present, List.mem_filterMap, Option.map_eq_some_iff, Prod.mk.injEq, Prod.exists,
    List.mk_mem_zipIdx_iff_le_and_getElem?_sub]
  constructor
  · rintro ⟨o, k, h, g, rfl, rfl, rfl⟩; exact h
  · intro h; exact ⟨some f, z, h, f, rfl, rfl, rfl⟩

/-- summing a function of `(z, F_z)` over the present groups = summing over all evaluation
points with the absent ones contributing zero -/
theorem sum_present (groups : Groups F) (off : Nat) (ψ : Nat → List F → F) (hψ : ∀ z, ψ z [] = 0) :
    ((present groups off).map fun e => ψ e.1 e.2).sum =
      ((List.range groups.length).map fun k => ψ (k + off) ((groups.getD k none).getD [])).sum := by
  induction groups generalizing off with
  | nil => simp [present]
  | cons g gs ih =>
    unfold present at ih ⊢
    rw [List.length_cons, List.range_succ_eq_map]
    simp only [List.zipIdx_cons, List.filterMap_cons, List.map_cons, List.sum_cons, List.map_map]
    have hrest := ih (off + 1)
    have hshift : (List.map ((fun k => ψ (k + off) (((g :: gs).getD k none).getD [])) ∘ Nat.succ) (List.range gs.length))
        = (List.range gs.length).map fun k => ψ (k + (off + 1)) ((gs.getD k none).getD []) := by
      apply List.map_congr_left
      intro k _
      simp only [Function.comp, Nat.succ_eq_add_one, List.getD_cons_succ]
      congr 1; omega
    rw [hshift, ← hrest]
    cases g with
    | none => simp [hψ]
    | some f0 => simp

/-- the prover's accumulation over the group table is a sum over the present groups -/
theorem fold_groups_eq (groups : Groups F) (off : Nat) (φ : Nat → List F → List F) (init : List F) :
    (List.zipIdx groups off).foldl (fun (acc : List F) (e : Option (List F) × Nat) =>
        (e.1.map fun f => addVec acc (φ e.2 f)).getD acc) init
      = ((present groups off).map fun e => φ e.1 e.2).foldl addVec init := by
  induction groups generalizing off init with
  | nil => simp [present]
  | cons g gs ih =>
    unfold present at ih ⊢
    simp only [List.zipIdx_cons, List.foldl_cons, List.filterMap_cons]
    cases g with
    | none => simpa using ih (off + 1) init
    | some f0 => simpa using ih (off + 1) _

/-- list sum over a range as a finite sum -/
theorem list_range_sum (N : Nat) (f : Nat → F) : ((List.range N).map f).sum = ∑ i ∈ Finset.range N, f i := by
  rw [← List.sum_toFinset _ List.nodup_range]
  congr 1
  ext j; simp

theorem sum_range_ite (N z0 : Nat) (hz : z0 < N) (ψ : Nat → F) (c : F) :
    ((List.range N).map fun z => ψ z * (if z = z0 then c else 0)).sum = ψ z0 * c := by
  rw [list_range_sum]
  simp only [mul_ite, mul_zero]
  rw [Finset.sum_ite_eq' (Finset.range N) z0 (fun z => ψ z * c)]
  simp [hz]

/-- **Sum grouped by key**: `Σ_z ψ z · Σ_{i ∈ I, key i = z} c i z = Σ_{i ∈ I} ψ (key i) · c i (key i)`.
Used for the prover's table of grouped polynomials and for the verifier's table of grouped values. -/
theorem sum_groupBy {ι : Type} (N : Nat) (key : ι → Nat) (c : ι → Nat → F) (ψ : Nat → F) :
    ∀ I : List ι, (∀ i ∈ I, key i < N) →
      ((List.range N).map fun z => ψ z * ((I.filter fun i => key i = z).map fun i => c i z).sum).sum
        = (I.map fun i => ψ (key i) * c i (key i)).sum
  | [], _ => by simp
  | i :: I, hI => by
    rw [List.map_cons, List.sum_cons, ← sum_groupBy N key c ψ I fun k hk => hI k (List.mem_cons_of_mem _ hk),
      ← sum_range_ite N (key i) (hI i List.mem_cons_self) ψ (c i (key i)), ← List.sum_map_add]
    apply congrArg
    apply List.map_congr_left
    intro z _
    by_cases h : key i = z
    · subst h; simp [mul_add]
    · simp [h, Ne.symm h]

/-- **Regrouping.** A weighted sum over evaluation points of the per-point contributions is the
sum over the openings, each weighted by the weight of its own evaluation point. -/
theorem regroup (N : Nat) (fs : List (List F)) (pows : List F) (zs : List Nat) (ψ : Nat → F) (j : Nat → Nat) :
    ∀ (I : List Nat), (∀ i ∈ I, zs.getD i 0 < N) →
      ((List.range N).map fun z => ψ z * contrib fs pows zs I z (j z)).sum =
        (I.map fun i => ψ (zs.getD i 0) * (pows.getD i 0 * (fs.getD i []).getD (j (zs.getD i 0)) 0)).sum :=
  sum_groupBy N (zs.getD · 0) (fun i z => pows.getD i 0 * (fs.getD i []).getD (j z) 0) ψ

/-- linear combination of vectors, accumulated like the prover does -/
def lincomb (N : Nat) (ss : List F) (vs : List (List F)) : List F :=
  sumVecs N (List.zipWith scaleVec ss vs)

theorem scaleVec_length (c : F) (v : List F) : (scaleVec c v).length = v.length := by simp [scaleVec]

theorem zipWith_scaleVec_length (N : Nat) (ss : List F) (vs : List (List F)) (hv : ∀ v ∈ vs, v.length = N) :
    ∀ u ∈ List.zipWith scaleVec ss vs, u.length = N := by
  intro u hu
  obtain ⟨k, hk, rfl⟩ := List.getElem_of_mem hu
  rw [List.getElem_zipWith, scaleVec_length]
  exact hv _ (List.getElem_mem _)

theorem lincomb_spec (N : Nat) (ss : List F) (vs : List (List F)) (hv : ∀ v ∈ vs, v.length = N) :
    (lincomb N ss vs).length = N ∧
      ∀ j, (lincomb N ss vs).getD j 0 = (List.zipWith (fun s v => s * v.getD j 0) ss vs).sum := by
  have hl := zipWith_scaleVec_length N ss vs hv
  obtain ⟨a, b⟩ := sumVecs_spec N _ hl
  refine ⟨a, ?_⟩
  intro j
  rw [show lincomb N ss vs = sumVecs N (List.zipWith scaleVec ss vs) from rfl, b j]
  congr 1
  clear hl a b hv
  induction ss generalizing vs with
  | nil => simp
  | cons s ss ih =>
    cases vs with
    | nil => simp
    | cons v vs => simp only [List.zipWith_cons_cons, List.map_cons, scaleVec_getD, ih vs]

/-- `msm g` of an accumulated sum of vectors -/
theorem msm_foldl_addVec (N : Nat) (g : List G) (vs : List (List F)) (hv : ∀ v ∈ vs, v.length = N) (init : List F)
    (hi : init.length = N) : msm g (vs.foldl addVec init) = msm g init + (vs.map (msm g)).sum := by
  induction vs generalizing init with
  | nil => simp
  | cons v vs ih =>
    have hvl : v.length = N := hv v (by simp)
    rw [List.foldl_cons, ih (fun u hu => hv u (by simp [hu])) _ (by rw [addVec_length, hi, hvl, Nat.min_self]),
      msm_addVec _ _ _ (by rw [hi, hvl]), List.map_cons, List.sum_cons, add_assoc]

theorem msm_sumVecs (N : Nat) (g : List G) (vs : List (List F)) (hv : ∀ v ∈ vs, v.length = N) :
    msm g (sumVecs N vs) = (vs.map (msm g)).sum := by
  rw [sumVecs, msm_foldl_addVec N g vs hv _ (by simp), msm_replicate_zero, zero_add]

/-- **MSM is linear**: the commitment to a linear combination of vectors is the same linear
combination of their commitments. -/
theorem msm_lincomb (N : Nat) (g : List G) (ss : List F) (vs : List (List F)) (hv : ∀ v ∈ vs, v.length = N) :
    msm g (lincomb N ss vs) = msm (vs.map (msm g)) ss := by
  rw [lincomb, msm_sumVecs N g _ (zipWith_scaleVec_length N ss vs hv), msm_eq, List.map_zipWith, List.zipWith_map_right]
  simp only [msm_scaleVec]

/-- well-formed configuration: `N = 2^rounds` basis points, the weight tables of the domain
`0..N−1`, whose points are distinct in `F`, and a correct domain test -/
structure CfgOk (cfg : IpaCfg F G) : Prop where
  N_pos : 1 ≤ cfg.N
  srs_len : cfg.srs.length = cfg.N
  pow : cfg.N = 2 ^ cfg.rounds
  weights : cfg.weights = Weights.new cfg.N
  inj : Set.InjOn (C18.dom (F := F)) (Finset.range cfg.N)
  dom_some : ∀ z i, cfg.inDomain z = some i → i < cfg.N ∧ z = (i : F)
  dom_none : ∀ z, cfg.inDomain z = none → ∀ i < cfg.N, z ≠ (i : F)

/-- evaluation of an evaluation-form vector at `t`: inner product with `computeBVector(t)` -/
def ev (cfg : IpaCfg F G) (t : F) (v : List F) : F := innerProd v (bVector cfg t)

theorem divide_length (w : Weights F) (N k : Nat) (f : List F) : (w.divideOnDomain N k f).length = N := by
  simp [Weights.divideOnDomain]

theorem bVector_length (cfg : IpaCfg F G) (hc : CfgOk cfg) (t : F) : (bVector cfg t).length = cfg.N := by
  unfold bVector
  cases cfg.inDomain t with
  | none => simp [Weights.baryCoeffs, batchInvert_length]
  | some i => simp

/-- **Evaluating the in-domain quotient.** For every point `t` different from the domain point
`z` — in the domain or outside — the evaluation of `DivideOnDomain(z, f)` at `t` is
`(f(t) − f(z)) / (t − z)`. -/
theorem ev_divide (cfg : IpaCfg F G) (hc : CfgOk cfg) (t : F) (z : Nat) (hz : z < cfg.N) (f : List F)
    (hf : f.length = cfg.N) (htz : t ≠ (z : F)) :
    ev cfg t (cfg.weights.divideOnDomain cfg.N z f) = (ev cfg t f - f.getD z 0) * (t - (z : F))⁻¹ := by
  have hne : t - (z : F) ≠ 0 := sub_ne_zero_of_ne htz
  rw [hc.weights]
  unfold ev bVector
  cases hd : cfg.inDomain t with
  | some i0 =>
    obtain ⟨hi0, ht⟩ := hc.dom_some t i0 hd
    simp only []
    rw [C04.innerProd_unit _ cfg.N i0 (divide_length _ _ _ _) hi0, C04.innerProd_unit _ cfg.N i0 hf hi0]
    have hiz : i0 ≠ z := by
      intro e; apply htz; rw [ht, e]
    rw [C18.divide_offdiag cfg.N z i0 hz hi0 hiz, ht]
  | none =>
    have hout := hc.dom_none t hd
    have hout' : ∀ i ∈ Finset.range cfg.N, t ≠ C18.dom i := fun i hi => hout i (Finset.mem_range.mp hi)
    simp only []
    rw [hc.weights, C18.bary_eval cfg.N _ (divide_length _ _ _ _) t hout', C18.bary_eval cfg.N f hf t hout']
    -- the interpolant of the quotient's evaluation form is the quotient polynomial
    have hq : Divide.quot cfg.N z f =
        Lagrange.interpolate (Finset.range cfg.N) (C18.dom (F := F))
          (fun i => ((Weights.new cfg.N : Weights F).divideOnDomain cfg.N z f).getD i 0) := by
      apply Lagrange.eq_interpolate_of_eval_eq _ hc.inj
      · rw [Finset.card_range]
        exact lt_of_lt_of_le (Divide.quot_degree cfg.N z hc.inj hc.N_pos f) (by exact_mod_cast Nat.sub_le _ 1)
      · intro i hi
        exact (Divide.divide_spec cfg.N z hc.inj hz f i (Finset.mem_range.mp hi)).symm
    rw [← hq]
    have hm := congrArg (Polynomial.eval t) (Divide.quot_mul cfg.N z f)
    simp only [Polynomial.eval_mul, Polynomial.eval_sub, Polynomial.eval_X, Polynomial.eval_C] at hm
    rw [Divide.interp_eval cfg.N hc.inj f z hz] at hm
    unfold Divide.interp at hm
    simp only [C18.dom] at hm ⊢
    field_simp
    linear_combination hm

/-! ### linearity of the evaluation functional -/

/-- `ev cfg t` is `msm (bVector cfg t)` over `F` -/
theorem ev_sumVecs (cfg : IpaCfg F G) (t : F) (N : Nat) (vs : List (List F)) (hv : ∀ v ∈ vs, v.length = N) :
    ev cfg t (sumVecs N vs) = (vs.map (ev cfg t)).sum :=
  msm_sumVecs N (bVector cfg t) vs hv

/-- sum of a `zipWith` as a sum over indices -/
theorem zipWith_sum_range {α β : Type} (f : α → β → F) (as : List α) (bs : List β) (da : α) (db : β)
    (h : as.length = bs.length) :
    (List.zipWith f as bs).sum = ((List.range as.length).map fun i => f (as.getD i da) (bs.getD i db)).sum := by
  induction as generalizing bs with
  | nil => simp
  | cons a as ih =>
    cases bs with
    | nil => simp at h
    | cons b bs =>
      rw [List.length_cons, List.range_succ_eq_map]
      simp only [List.zipWith_cons_cons, List.sum_cons, List.map_cons, List.map_map, List.getD_cons_zero]
      rw [ih bs (by simpa using h)]
      congr 1

end GoIpa.Mp
