/-
  `Element.Inverse` (binary extended Euclid on Montgomery representations) is correct:
  for every `0 < x < r` the loop ends by its own exit tests and returns `z < r` with
  `z·x ≡ 2^512 (mod r)`; hence on values `Inverse(a)·a = 1`.
-/
import Mathlib.Data.ZMod.Basic
import Mathlib.Tactic.Ring
import Mathlib.Tactic.LinearCombination
import GoIpa.Model.FrInverse
import GoIpa.Lemmas.Primes
import GoIpa.Lemmas.Cios
import GoIpa.Lemmas.ZpField
namespace GoIpa.FrInv
open GoIpa

instance : Fact (Nat.Prime R) := ⟨Primes.R_prime⟩

theorem R_odd : R % 2 = 1 := by decide
theorem R_lt : 2 * R < W256 := by decide
theorem two_ne_zero' : (2 : ZMod R) ≠ 0 := by
  intro h
  have : ((2 : ℕ) : ZMod R) = 0 := by exact_mod_cast h
  rw [ZMod.natCast_eq_zero_iff] at this
  have := Nat.le_of_dvd (by decide) this
  exact absurd this (by decide)

/-- the relation the loop maintains between a cofactor `s` and its value `v` -/
def Rel (X s v : ℕ) : Prop := (s : ZMod R) * (X : ZMod R) = (v : ZMod R) * (rSquare : ZMod R)

/-- **Inner loop.** Halving an even, positive `v` together with its cofactor. -/
theorem halve_spec (X u : ℕ) : ∀ (fuel v s : ℕ), 0 < v → v < 2 ^ fuel → s < R → Rel X s v → Nat.Coprime u v →
    (halve fuel v s).1 % 2 = 1 ∧ 0 < (halve fuel v s).1 ∧ (halve fuel v s).1 ≤ v ∧ (halve fuel v s).2 < R ∧
    Rel X (halve fuel v s).2 (halve fuel v s).1 ∧ Nat.Coprime u (halve fuel v s).1 := by
  intro fuel
  induction fuel with
  | zero => intro v s hv hlt; simp at hlt; omega
  | succ fuel ih =>
    intro v s hv hlt hs hrel hco
    unfold halve
    by_cases hev : v % 2 = 0
    · rw [if_pos hev]
      simp only
      have hv2 : 0 < v / 2 := by omega
      have hlt2 : v / 2 < 2 ^ fuel := by rw [Nat.pow_succ] at hlt; omega
      have hR := R_odd
      have hRl := R_lt
      -- the adjusted cofactor is even and below 2r
      set s1 := if s % 2 = 1 then (s + R) % W256 else s with hs1
      have hs1v : s1 % 2 = 0 ∧ s1 < 2 * R ∧ (s1 : ZMod R) = (s : ZMod R) := by
        by_cases hodd : s % 2 = 1
        · rw [hs1, if_pos hodd, Nat.mod_eq_of_lt (show s + R < W256 by omega)]
          refine ⟨by omega, by omega, ?_⟩
          rw [Nat.cast_add, ZMod.natCast_self, add_zero]
        · rw [hs1, if_neg hodd]
          exact ⟨by omega, by omega, rfl⟩
      obtain ⟨he, hb, hc⟩ := hs1v
      have hrel2 : Rel X (s1 / 2) (v / 2) := by
        unfold Rel at hrel ⊢
        have e1 : ((s1 / 2 : ℕ) : ZMod R) * 2 = (s1 : ZMod R) := by
          have : s1 / 2 * 2 = s1 := by omega
          exact_mod_cast congrArg (Nat.cast (R := ZMod R)) this
        have e2 : ((v / 2 : ℕ) : ZMod R) * 2 = (v : ZMod R) := by
          have : v / 2 * 2 = v := by omega
          exact_mod_cast congrArg (Nat.cast (R := ZMod R)) this
        apply mul_right_cancel₀ two_ne_zero'
        rw [hc] at e1
        linear_combination hrel + (X : ZMod R) * e1 - (rSquare : ZMod R) * e2
      have hco2 : Nat.Coprime u (v / 2) := Nat.Coprime.coprime_dvd_right (Nat.div_dvd_of_dvd (by omega)) hco
      obtain ⟨a, b, c, d, e, f⟩ := ih (v / 2) (s1 / 2) hv2 hlt2 (by omega) hrel2 hco2
      exact ⟨a, b, by omega, d, e, f⟩
    · rw [if_neg hev]
      exact ⟨by omega, hv, Nat.le_refl _, hs, hrel, hco⟩

theorem subMod_spec (a b : ℕ) (ha : a < R) (hb : b < R) :
    subMod a b < R ∧ ((subMod a b : ℕ) : ZMod R) = (a : ZMod R) - (b : ZMod R) := by
  have hRl := R_lt
  unfold subMod
  by_cases h : a < b
  · rw [if_pos h]
    have e1 : (a + W256 - b) % W256 = a + W256 - b := Nat.mod_eq_of_lt (by omega)
    have e2 : (a + W256 - b + R) % W256 = a + R - b := by
      have : a + W256 - b + R = (a + R - b) + W256 := by omega
      rw [this, Nat.add_mod_right, Nat.mod_eq_of_lt (by omega)]
    rw [e1, e2]
    refine ⟨by omega, ?_⟩
    rw [Nat.cast_sub (by omega), Nat.cast_add, ZMod.natCast_self, add_zero]
  · rw [if_neg h]
    exact ⟨by omega, by rw [Nat.cast_sub (by omega)]⟩

/-- **Outer loop.** With enough fuel for the measure `u + v`, the loop leaves by one of its two
exit tests and what it returns is the cofactor of `1`. -/
theorem loop_spec (X : ℕ) : ∀ (fuel u v r s : ℕ), u + v ≤ fuel → 0 < u → 0 < v → u ≤ R → v ≤ R → r < R → s < R →
    Rel X r u → Rel X s v → Nat.Coprime u v →
    loop fuel u v r s < R ∧ ((loop fuel u v r s : ℕ) : ZMod R) * (X : ZMod R) = (rSquare : ZMod R) := by
  intro fuel
  induction fuel with
  | zero => intro u v r s h hu hv; omega
  | succ fuel ih =>
    intro u v r s hfuel hu hv huR hvR hr hs hru hsv hco
    have hRl := R_lt
    have hW : R < 2 ^ 256 := by decide
    unfold loop
    obtain ⟨v1, v2, v3, v4, v5, v6⟩ := halve_spec X u 256 v s hv (by omega) hs hsv hco
    obtain ⟨u1, u2, u3, u4, u5, u6⟩ := halve_spec X (halve 256 v s).1 256 u r hu (by omega) hr hru v6.symm
    simp only
    generalize (halve 256 v s).1 = v' at *
    generalize (halve 256 v s).2 = s' at *
    generalize (halve 256 u r).1 = u' at *
    generalize (halve 256 u r).2 = r' at *
    have hcop : Nat.Coprime u' v' := u6.symm
    by_cases hge : v' ≥ u'
    · rw [if_pos hge]
      have e : (v' + W256 - u') % W256 = v' - u' := by
        have : v' + W256 - u' = (v' - u') + W256 := by omega
        rw [this, Nat.add_mod_right, Nat.mod_eq_of_lt (by unfold W256; omega)]
      rw [e]
      obtain ⟨sb, sc⟩ := subMod_spec s' r' v4 u4
      by_cases h1 : u' = 1
      · rw [if_pos h1]
        refine ⟨u4, ?_⟩
        have := u5; unfold Rel at this; rw [h1] at this; simpa using this
      · rw [if_neg h1]
        have hrel' : Rel X (subMod s' r') (v' - u') := by
          unfold Rel at v5 u5 ⊢
          rw [sc, Nat.cast_sub hge]
          linear_combination v5 - u5
        by_cases h2 : v' - u' = 1
        · rw [if_pos h2]
          refine ⟨sb, ?_⟩
          unfold Rel at hrel'; rw [h2] at hrel'; simpa using hrel'
        · rw [if_neg h2]
          have hco' : Nat.Coprime u' (v' - u') := by
            rw [Nat.coprime_sub_self_right hge]; exact hcop
          have hpos : 0 < v' - u' := by
            rcases Nat.eq_zero_or_pos (v' - u') with h0 | h0
            · rw [h0] at hco'; simp at hco'; exact absurd hco' h1
            · exact h0
          exact ih u' (v' - u') r' (subMod s' r') (by omega) u2 hpos (by omega) (by omega) u4 sb u5 hrel' hco'
    · rw [if_neg hge]
      have hlt : v' < u' := by omega
      have e : (u' + W256 - v') % W256 = u' - v' := by
        have : u' + W256 - v' = (u' - v') + W256 := by omega
        rw [this, Nat.add_mod_right, Nat.mod_eq_of_lt (by unfold W256; omega)]
      rw [e]
      obtain ⟨sb, sc⟩ := subMod_spec r' s' u4 v4
      have hrel' : Rel X (subMod r' s') (u' - v') := by
        unfold Rel at v5 u5 ⊢
        rw [sc, Nat.cast_sub (by omega)]
        linear_combination u5 - v5
      by_cases h1 : u' - v' = 1
      · rw [if_pos h1]
        refine ⟨sb, ?_⟩
        unfold Rel at hrel'; rw [h1] at hrel'; simpa using hrel'
      · rw [if_neg h1]
        by_cases h2 : v' = 1
        · rw [if_pos h2]
          refine ⟨v4, ?_⟩
          have := v5; unfold Rel at this; rw [h2] at this; simpa using this
        · rw [if_neg h2]
          have hco' : Nat.Coprime (u' - v') v' := by
            rw [Nat.coprime_sub_self_left (by omega)]; exact hcop
          exact ih (u' - v') v' (subMod r' s') s' (by omega) (by omega) v2 (by omega) (by omega) sb v4 hrel' v5 hco'

theorem rSquare_eq : rSquare = W256 * W256 % R := by decide

/-- **`Inverse` on Montgomery representations.** For every `0 < x < r`: the result `z` is fully
reduced and `z·x ≡ 2^256·2^256 (mod r)`; `Inverse(0) = 0`. -/
theorem inverseMont_spec (x : ℕ) (hx0 : 0 < x) (hx : x < R) :
    inverseMont x < R ∧ ((inverseMont x : ℕ) : ZMod R) * (x : ZMod R) = (W256 : ZMod R) * (W256 : ZMod R) := by
  unfold inverseMont
  rw [if_neg (by omega)]
  have hco : Nat.Coprime R x := by
    rw [Nat.coprime_comm]
    exact Nat.Coprime.symm ((Nat.Prime.coprime_iff_not_dvd Primes.R_prime).mpr (fun h => by
      have := Nat.le_of_dvd hx0 h; omega))
  obtain ⟨a, b⟩ := loop_spec x (R + x) R x 0 rSquare (Nat.le_refl _) (by decide) hx0 (Nat.le_refl _) (by omega)
    (by decide) (by decide) (by unfold Rel; simp) (by unfold Rel; ring) hco
  refine ⟨a, ?_⟩
  rw [b, rSquare_eq, ZMod.natCast_mod, Nat.cast_mul]

theorem inverseMont_zero : inverseMont 0 = 0 := rfl

/-! ### on values -/

theorem ofNat_limbs (z : ℕ) (hz : z < W256) : (Limbs.ofNat z).ok ∧ (Limbs.ofNat z).val = z :=
  Limbs.ofNat_spec hz

theorem W256_ne_zero : (W256 : ZMod R) ≠ 0 := by
  rw [Ne, ZMod.natCast_eq_zero_iff]
  decide

instance : Fact (2 < R) := ⟨by decide⟩

/-- **`Inverse` on values.** For every non-zero scalar `a`, converting to Montgomery form, running
the loop and converting back gives the multiplicative inverse; `Inverse(0) = 0`. -/
theorem inverseValue_spec (a : Fr) (ha : a ≠ 0) : inverseValue a * a = 1 := by
  apply Zp.toZ_injective
  rw [Zp.toZ_mul, Zp.toZ_one]
  unfold inverseValue
  simp only
  have ha' : Zp.toZ a ≠ 0 := by
    intro h; apply ha; apply Zp.toZ_injective; rw [h, Zp.toZ_zero]
  -- the Montgomery representation of `a`
  set x := a.val * W256 % R with hx
  have hxR : x < R := Nat.mod_lt _ (by decide)
  have hxc : (x : ZMod R) = Zp.toZ a * (W256 : ZMod R) := by
    rw [hx, ZMod.natCast_mod, Nat.cast_mul]; rfl
  have hx0 : 0 < x := by
    rcases Nat.eq_zero_or_pos x with h0 | h0
    · exfalso
      have : (x : ZMod R) = 0 := by rw [h0]; simp
      rw [hxc] at this
      rcases mul_eq_zero.mp this with h | h
      · exact ha' h
      · exact W256_ne_zero h
    · exact h0
  obtain ⟨hzR, hz⟩ := inverseMont_spec x hx0 hxR
  obtain ⟨hok, hval⟩ := ofNat_limbs (inverseMont x) (Nat.lt_trans hzR (by decide))
  obtain ⟨_, hlt, hfm⟩ := Cios.fromMontG_correct (Limbs.ofNat (inverseMont x)) hok
  rw [hval] at hfm
  -- `w·2^256 = z` in `ZMod r`
  have hw : ((Limbs.fromMontG (Limbs.ofNat (inverseMont x))).val : ZMod R) * (W256 : ZMod R) = (inverseMont x : ZMod R) := by
    have h1 : ((Limbs.fromMontG (Limbs.ofNat (inverseMont x))).val * W256 : ℕ) % R = inverseMont x % R := by
      have : Limbs.W * Limbs.W * Limbs.W * Limbs.W = W256 := by decide
      rw [← this]; exact hfm
    have := (ZMod.natCast_eq_natCast_iff' _ _ R).mpr h1
    rw [Nat.cast_mul] at this
    exact this
  rw [Zp.toZ_ofNat]
  have hW := W256_ne_zero
  apply mul_right_cancel₀ hW
  apply mul_right_cancel₀ hW
  rw [hxc] at hz
  rw [← hw] at hz
  linear_combination hz

theorem inverseValue_zero : inverseValue (0 : Fr) = 0 := by decide +kernel

/-- the loop computes the field inverse the rest of the model uses (`0⁻¹ = 0` included) -/
theorem inverseValue_eq_inv (a : Fr) : inverseValue a = a⁻¹ := by
  by_cases ha : a = 0
  · subst ha; rw [inverseValue_zero]
    apply Zp.toZ_injective
    rw [Zp.toZ_inv, Zp.toZ_zero, inv_zero]
  · have h := inverseValue_spec a ha
    exact eq_inv_of_mul_eq_one_left h

end GoIpa.FrInv
