/-
  Reasoning principles for the loop vocabulary of the translator (`Model/Loop.lean`): loops as
  folds over `List.range`, an induction principle for loop invariants, pointwise reading of
  lists after `set`, and extensionality through `getD`.

  Loops that write an array: iteration `k` stores into one position `p k` of a list held in the
  loop state, no two iterations into the same position.  Then the list at the end is known entry
  by entry: at `p k` stands what iteration `k` stored, computed from the state *in which* it was
  stored, every other entry is the initial one (`foldl_write`).  The usual shapes — an ascending
  index loop (`foldl_write_up`), a descending one (`foldl_write_down`), a loop over the bare list
  (`foldl_set_map`) — give the list as a `map` over `range`.  What the stored values depend on
  (an accumulator carried beside the list) is a fold of its own, split off by `foldl_proj`.
-/
import GoIpa.Model.Loop
import Mathlib.Data.List.Basic
namespace GoIpa.Loop

theorem get_nat {α : Type} (l : List α) (k : Nat) (d : α) : get l (k : Int) d = l.getD k d := by
  unfold get
  have : ¬ ((k : Int) < 0) := by omega
  rw [if_neg this]; simp

theorem set_nat {α : Type} (l : List α) (k : Nat) (v : α) : set l (k : Int) v = l.set k v := by
  unfold set
  have : ¬ ((k : Int) < 0) := by omega
  rw [if_neg this]; simp

/-! ### the bit operations on naturals

A literal operand is a cast too: `(1 : Int) = ((1 : Nat) : Int)` is `Nat.cast_one.symm`. -/

theorem band_natCast (a b : Nat) : band (a : Int) (b : Int) = ((a &&& b : Nat) : Int) := rfl
theorem bor_natCast (a b : Nat) : bor (a : Int) (b : Int) = ((a ||| b : Nat) : Int) := rfl
theorem shl_natCast (a b : Nat) : shl (a : Int) (b : Int) = ((a <<< b : Nat) : Int) := rfl
theorem shr_natCast (a b : Nat) : shr (a : Int) (b : Int) = ((a >>> b : Nat) : Int) := rfl
theorem shl64_natCast (a b : Nat) :
    shl64 (a : Int) (b : Int) = (((a <<< b) % 18446744073709551616 : Nat) : Int) := rfl
theorem bandNot_natCast (a b : Nat) : bandNot (a : Int) (b : Int) = ((a - (a &&& b) : Nat) : Int) := rfl

theorem forUp_nat {σ : Type} (lo hi : Nat) (st : σ) (body : Int → σ → σ) :
    forUp (lo : Int) (hi : Int) st body
      = (List.range (hi - lo)).foldl (fun st (k : Nat) => body (((lo + k : Nat)) : Int) st) st := by
  unfold forUp
  have : ((hi : Int) - (lo : Int)).toNat = hi - lo := by omega
  rw [this]
  congr 1

theorem forUp_zero {σ : Type} (hi : Nat) (st : σ) (body : Int → σ → σ) :
    forUp 0 (hi : Int) st body = (List.range hi).foldl (fun st (k : Nat) => body (k : Int) st) st := by
  have := forUp_nat 0 hi st body
  simpa using this

/-- **Loop invariant principle** for a fold over `range n` -/
theorem foldl_range_inv {σ : Type} (P : Nat → σ → Prop) (f : σ → Nat → σ) (init : σ) (n : Nat)
    (h0 : P 0 init) (hstep : ∀ k st, k < n → P k st → P (k + 1) (f st k)) :
    P n ((List.range n).foldl f init) := by
  induction n with
  | zero => simpa using h0
  | succ n ih =>
    rw [List.range_succ, List.foldl_append]
    simp only [List.foldl_cons, List.foldl_nil]
    apply hstep n _ (Nat.lt_succ_self n)
    exact ih (fun k st hk hp => hstep k st (Nat.lt_succ_of_lt hk) hp)

theorem getD_set {α : Type} (l : List α) (i j : Nat) (v d : α) :
    (l.set i v).getD j d = if i = j ∧ i < l.length then v else l.getD j d := by
  simp only [List.getD_eq_getElem?_getD, List.getElem?_set]
  by_cases h : i = j
  · subst h
    by_cases hl : i < l.length
    · simp [hl]
    · simp [hl]
  · simp [h]

theorem ext_getD {α : Type} (l₁ l₂ : List α) (d : α) (hlen : l₁.length = l₂.length)
    (h : ∀ j, j < l₁.length → l₁.getD j d = l₂.getD j d) : l₁ = l₂ := by
  apply List.ext_getElem hlen
  intro j h1 h2
  have := h j h1
  simp only [List.getD_eq_getElem?_getD, List.getElem?_eq_getElem h1, List.getElem?_eq_getElem h2,
    Option.getD_some] at this
  exact this

theorem getD_map_range {α : Type} (n : Nat) (g : Nat → α) (j : Nat) (d : α) (hj : j < n) :
    ((List.range n).map g).getD j d = g j := by
  simp [List.getD_eq_getElem?_getD, hj]

theorem getD_replicate {α : Type} (n : Nat) (v d : α) (j : Nat) (hj : j < n) :
    (List.replicate n v).getD j d = v := by
  simp [List.getD_eq_getElem?_getD, hj]

/-- a list is the table of its own entries -/
theorem eq_range_map {α : Type} (l : List α) (d : α) : l = (List.range l.length).map (fun k => l.getD k d) := by
  apply ext_getD _ _ d (by simp)
  intro j hj
  rw [getD_map_range _ _ _ _ hj]

theorem zipWith_eq_range_map {α β γ : Type} (f : α → β → γ) (a : List α) (b : List β) (da : α) (db : β)
    (h : a.length = b.length) :
    List.zipWith f a b = (List.range a.length).map (fun k => f (a.getD k da) (b.getD k db)) := by
  apply List.ext_getElem (by simp [h])
  intro j h1 h2
  simp only [List.length_zipWith, ← h, Nat.min_self] at h1
  simp [List.getD_eq_getElem?_getD, h1, h ▸ h1]

theorem getD_set_self {α : Type} (l : List α) (i : Nat) (v d : α) (h : i < l.length) : (l.set i v).getD i d = v := by
  rw [getD_set]; simp [h]

theorem getD_set_ne {α : Type} (l : List α) (i j : Nat) (v d : α) (h : i ≠ j) : (l.set i v).getD j d = l.getD j d := by
  rw [getD_set]; simp [h]

/-- two folds agree when their bodies agree on every state satisfying an invariant -/
theorem foldl_congr_inv {σ : Type} (P : σ → Prop) (f g : σ → Nat → σ) (init : σ) (n : Nat) (h0 : P init)
    (hstep : ∀ k st, k < n → P st → f st k = g st k ∧ P (f st k)) :
    (List.range n).foldl f init = (List.range n).foldl g init ∧ P ((List.range n).foldl f init) := by
  induction n with
  | zero => exact ⟨rfl, by simpa using h0⟩
  | succ n ih =>
    obtain ⟨e, p⟩ := ih (fun k st hk hp => hstep k st (Nat.lt_succ_of_lt hk) hp)
    rw [List.range_succ, List.foldl_append, List.foldl_append]
    simp only [List.foldl_cons, List.foldl_nil]
    obtain ⟨e2, p2⟩ := hstep n _ (Nat.lt_succ_self n) p
    rw [← e]
    exact ⟨e2, p2⟩

/-- a loop that appends the selected entries -/
theorem foldl_append_filter {α : Type} (n : Nat) (p : Nat → Prop) [DecidablePred p] (g : Nat → α) (init : List α) :
    (List.range n).foldl (fun st k => if p k then st else st ++ [g k]) init
      = init ++ (List.range n).filterMap (fun k => if p k then none else some (g k)) := by
  induction n with
  | zero => simp
  | succ n ih =>
    rw [List.range_succ, List.foldl_append, ih, List.filterMap_append]
    simp only [List.foldl_cons, List.foldl_nil, List.filterMap_cons, List.filterMap_nil]
    by_cases hp : p n
    · simp [hp]
    · simp [hp]

theorem set_getD_self {α : Type} (l : List α) (k : Nat) (d : α) : l.set k (l.getD k d) = l := by
  by_cases h : k < l.length
  · simp [List.getD_eq_getElem?_getD, h]
  · exact List.set_eq_of_length_le (by omega)

/-- a component of the loop state that evolves on its own is a loop of its own
(`List.foldl_hom` with the index bounded) -/
theorem foldl_proj {σ τ : Type} (p : σ → τ) (f : σ → Nat → σ) (g : τ → Nat → τ) (init : σ) (n : Nat)
    (h : ∀ st k, k < n → p (f st k) = g (p st) k) :
    ∀ j, j ≤ n → p ((List.range j).foldl f init) = (List.range j).foldl g (p init) := by
  intro j
  induction j with
  | zero => intro _; rfl
  | succ j ih =>
    intro hj
    rw [List.range_succ, List.foldl_append, List.foldl_append, List.foldl_cons, List.foldl_nil, List.foldl_cons,
      List.foldl_nil, h _ j hj, ih (Nat.le_of_succ_le hj)]

theorem getD_replicate_self {α : Type} (n j : Nat) (d : α) : (List.replicate n d).getD j d = d := by
  simp only [List.getD_eq_getElem?_getD, List.getElem?_replicate]
  split <;> rfl

theorem map_range_getD {α β : Type} (l : List α) (d : α) (g : α → β) (n : Nat) (h : l.length = n) :
    (List.range n).map (fun k => g (l.getD k d)) = l.map g := by
  subst h
  conv_rhs => rw [eq_range_map l d, List.map_map]
  rfl

section write
variable {σ α : Type} (d : α) (π : σ → List α) (p : Nat → Nat) (f : σ → Nat → σ) (v : σ → Nat → α → α) (init : σ)

/-- **Write-once loops.**  `π` reads the array out of the loop state; iteration `k` replaces its
entry at `p k` by `v st k old`.  `v` may use the whole state `st` of that moment and the old entry. -/
theorem foldl_write (n : Nat) (hp : ∀ i j, i < j → j < n → p i ≠ p j)
    (hπ : ∀ st k, k < n → (π st).length = (π init).length →
      π (f st k) = (π st).set (p k) (v st k ((π st).getD (p k) d))) :
    (π ((List.range n).foldl f init)).length = (π init).length ∧
    (∀ j, j < n → p j < (π init).length → (π ((List.range n).foldl f init)).getD (p j) d
        = v ((List.range j).foldl f init) j ((π init).getD (p j) d)) ∧
    (∀ i, (∀ j, j < n → p j ≠ i) → (π ((List.range n).foldl f init)).getD i d = (π init).getD i d) := by
  induction n with
  | zero => exact ⟨rfl, fun j hj => absurd hj (Nat.not_lt_zero j), fun i _ => rfl⟩
  | succ n ih =>
    obtain ⟨hlen, hin, hout⟩ := ih (fun i j hij hj => hp i j hij (Nat.lt_succ_of_lt hj))
      (fun st k hk => hπ st k (Nat.lt_succ_of_lt hk))
    rw [List.range_succ, List.foldl_append, List.foldl_cons, List.foldl_nil, hπ _ n (Nat.lt_succ_self n) hlen,
      hout (p n) (fun j hj => hp j n hj (Nat.lt_succ_self n))]
    refine ⟨by rw [List.length_set, hlen], ?_, ?_⟩
    · intro j hj hpj
      rcases Nat.lt_succ_iff_lt_or_eq.mp hj with hjn | rfl
      · rw [getD_set_ne _ _ _ _ _ (Ne.symm (hp j n hjn (Nat.lt_succ_self n))), hin j hjn hpj]
      · rw [getD_set_self _ _ _ _ (by rw [hlen]; exact hpj)]
    · intro i hi
      rw [getD_set_ne _ _ _ _ _ (hi n (Nat.lt_succ_self n)), hout i (fun j hj => hi j (Nat.lt_succ_of_lt hj))]

/-- ascending: iteration `k` writes entry `k` of an array of length `n` -/
theorem foldl_write_up (n : Nat) (hn : (π init).length = n)
    (hπ : ∀ st k, k < n → (π st).length = n → π (f st k) = (π st).set k (v st k ((π st).getD k d))) :
    π ((List.range n).foldl f init)
      = (List.range n).map (fun j => v ((List.range j).foldl f init) j ((π init).getD j d)) := by
  obtain ⟨hlen, hin, _⟩ := foldl_write d π id f v init n (fun i j hij _ => Nat.ne_of_lt hij)
    (fun st k hk hl => hπ st k hk (hl.trans hn))
  apply ext_getD _ _ d (by rw [hlen, hn, List.length_map, List.length_range])
  intro j hj
  rw [hlen, hn] at hj
  rw [getD_map_range _ _ _ _ hj]
  exact hin j hj (by rw [hn]; exact hj)

/-- descending: iteration `k` writes entry `i = n - 1 - k` of an array of length `n`; here `v` is given
the position `i` (the loop variable of the source) instead of the iteration count -/
theorem foldl_write_down (n : Nat) (hn : (π init).length = n)
    (hπ : ∀ st k, k < n → (π st).length = n →
      π (f st k) = (π st).set (n - 1 - k) (v st (n - 1 - k) ((π st).getD (n - 1 - k) d))) :
    π ((List.range n).foldl f init)
      = (List.range n).map (fun i => v ((List.range (n - 1 - i)).foldl f init) i ((π init).getD i d)) := by
  obtain ⟨hlen, hin, _⟩ := foldl_write d π (fun k => n - 1 - k) f (fun st k => v st (n - 1 - k)) init n
    (fun i j hij hj => Nat.ne_of_gt (Nat.sub_lt_sub_left (Nat.lt_of_lt_of_le hij (Nat.le_sub_one_of_lt hj)) hij))
    (fun st k hk hl => hπ st k hk (hl.trans hn))
  apply ext_getD _ _ d (by rw [hlen, hn, List.length_map, List.length_range])
  intro i hi
  rw [hlen, hn] at hi
  have e : n - 1 - (n - 1 - i) = i := Nat.sub_sub_self (Nat.le_sub_one_of_lt hi)
  have h := hin (n - 1 - i) (Nat.lt_of_le_of_lt (Nat.sub_le _ _) (Nat.sub_one_lt_of_lt hi)) (by rw [e, hn]; exact hi)
  rw [e] at h
  rw [getD_map_range _ _ _ _ hi, h]

end write

/-- the loop state is the array itself and the value written depends on the index and the old entry
only: the loop maps the array.  (`G k _` constant in the old entry: the loop fills it.) -/
theorem foldl_set_map {α : Type} (d : α) (G : Nat → α → α) (body : List α → Nat → List α) (l0 : List α) (n : Nat)
    (hl0 : l0.length = n)
    (hbody : ∀ l k, k < n → l.length = n → body l k = l.set k (G k (l.getD k d))) :
    (List.range n).foldl body l0 = (List.range n).map (fun k => G k (l0.getD k d)) :=
  foldl_write_up d id body (fun _ => G) l0 n hl0 hbody

/-- every entry replaced by its image under `g`: the loop is `map g` -/
theorem foldl_set_eq_map {α : Type} (d : α) (g : α → α) (body : List α → Nat → List α) (l0 : List α) (n : Nat)
    (hl0 : l0.length = n) (hbody : ∀ l k, k < n → l.length = n → body l k = l.set k (g (l.getD k d))) :
    (List.range n).foldl body l0 = l0.map g :=
  (foldl_set_map d (fun _ => g) body l0 n hl0 hbody).trans (map_range_getD l0 d g n hl0)


/-- the loop writes `g k` into slot `k` -/
theorem foldl_fill {α : Type} (n : Nat) (d : α) (g : Nat → α) (l0 : List α) (h : l0.length = n) :
    (List.range n).foldl (fun (st : List α) (k : Nat) => st.set k (g k)) l0 = (List.range n).map g :=
  foldl_set_map d (fun k _ => g k) _ l0 n h (fun _ _ _ _ => rfl)

/-- **A loop that fills two blocks at once**: iteration `k` writes position `k` and position
`k + m` of a list of length `2m` (each half is an array written in order) -/
theorem foldl_two_blocks {α : Type} (m : Nat) (d : α) (g h : Nat → α) (body : List α → Nat → List α)
    (hbody : ∀ l k, k < m → body l k = (l.set k (g k)).set (k + m) (h k)) :
    (List.range m).foldl body (List.replicate (2 * m) d) = (List.range m).map g ++ (List.range m).map h := by
  rw [← List.take_append_drop m ((List.range m).foldl body (List.replicate (2 * m) d)),
    foldl_write_up d (List.take m) body (fun _ k _ => g k) _ m (by rw [List.length_take, List.length_replicate]; omega)
      (fun l k hk hl => by
        rw [hbody l k hk, List.take_set, List.take_set, List.set_eq_of_length_le (by rw [List.length_set, hl]; omega)]),
    foldl_write_up d (List.drop m) body (fun _ k _ => h k) _ m (by rw [List.length_drop, List.length_replicate]; omega)
      (fun l k hk _ => by
        rw [hbody l k hk, List.drop_set, if_neg (by omega), List.drop_set, if_pos hk, Nat.add_sub_cancel])]

/-- folding a list is folding its indices -/
theorem foldl_getD {α σ : Type} (f : σ → α → σ) (d : α) :
    ∀ (l : List α) (a : σ), (List.range l.length).foldl (fun st k => f st (l.getD k d)) a = l.foldl f a := by
  intro l
  induction l with
  | nil => intro a; rfl
  | cons x xs ih =>
    intro a
    rw [List.length_cons, List.range_succ_eq_map, List.foldl_cons, List.foldl_map]
    simp only [List.getD_cons_zero, List.getD_cons_succ]
    exact ih (f a x)

theorem forDown_nat {σ : Type} (hi : Int) (st : σ) (body : Int → σ → σ) :
    forDown hi 0 st body = (List.range (hi + 1).toNat).foldl (fun st (k : Nat) => body (hi - (k : Int)) st) st := by
  unfold forDown
  simp

theorem getD_map_cast (l : List Nat) (i : Nat) : (l.map (fun (z : Nat) => (z : Int))).getD i 0 = ((l.getD i 0 : Nat) : Int) := by
  simp only [List.getD_eq_getElem?_getD, List.getElem?_map]
  cases l[i]? <;> simp

/-! ### `forNat` loops -/

/-- **A loop that fills position `i` from position `i − 1`** (`l[i] = f i l[i−1]` for `lo ≤ i < hi`, `1 ≤ lo`):
the result satisfies the recurrence on `[lo, hi)` and is the initial list elsewhere. -/
theorem forNat_fill {α : Type} (d : α) (f : Nat → α → α) (lo hi : Nat) (l : List α) (hlo : 1 ≤ lo)
    (hhi : hi ≤ l.length) :
    let r := forNat lo hi l (fun i st => st.set i (f i (st.getD (i - 1) d)))
    r.length = l.length ∧
      ∀ j, r.getD j d = if lo ≤ j ∧ j < hi then f j (r.getD (j - 1) d) else l.getD j d := by
  have key := foldl_range_inv
    (fun k (st : List α) => st.length = l.length ∧
      ∀ j, st.getD j d = if lo ≤ j ∧ j < lo + k then f j (st.getD (j - 1) d) else l.getD j d)
    (fun st k => st.set (lo + k) (f (lo + k) (st.getD (lo + k - 1) d))) l (hi - lo)
    ⟨rfl, fun j => by rw [if_neg (by omega)]⟩
    (by
      intro k st hk ⟨hl, hv⟩
      refine ⟨by rw [List.length_set, hl], fun j => ?_⟩
      -- the slot written now is read by no earlier recurrence step
      have hprev : ∀ j, j ≤ lo + k → (st.set (lo + k) (f (lo + k) (st.getD (lo + k - 1) d))).getD (j - 1) d
          = st.getD (j - 1) d := fun j hj => getD_set_ne _ _ _ _ _ (by omega)
      by_cases hj : lo + k = j
      · subst hj
        rw [getD_set_self _ _ _ _ (by omega), if_pos (by omega), hprev _ (Nat.le_refl _)]
      · rw [getD_set_ne _ _ _ _ _ hj, hv j]
        by_cases hc : lo ≤ j ∧ j < lo + k
        · rw [if_pos hc, if_pos (by omega), hprev j (by omega)]
        · rw [if_neg hc, if_neg (by omega)])
  refine ⟨key.1, fun j => ?_⟩
  have hiff : (lo ≤ j ∧ j < lo + (hi - lo)) ↔ (lo ≤ j ∧ j < hi) := by omega
  have := key.2 j
  rwa [if_congr hiff rfl rfl] at this

theorem forNat_zero {σ : Type} (n : Nat) (st : σ) (body : Nat → σ → σ) :
    forNat 0 n st body = (List.range n).foldl (fun st k => body k st) st := by
  simp [forNat]

/-- a loop that only rewrites slot `i` is the loop on that slot -/
theorem forNat_slot {α : Type} (d : α) (f : Nat → α → α) (i lo hi : Nat) (l : List α) (hl : i < l.length) :
    forNat lo hi l (fun j st => st.set i (f j (st.getD i d))) = l.set i (forNat lo hi (l.getD i d) f) := by
  unfold forNat
  induction hi - lo with
  | zero => simp [List.getD_eq_getElem?_getD, List.getElem?_eq_getElem hl]
  | succ n ih =>
    rw [List.range_succ, List.foldl_append, List.foldl_append, ih]
    simp [List.getD_eq_getElem?_getD, hl]

end GoIpa.Loop
