/-
  Linear algebra on lists.  `msm g a = Σ aᵢ • gᵢ` is the one bilinear form: `innerProd a b` is
  `msm b a` in the module `F` over itself (and `foldScalars` is `foldPoints` there), so every
  fact about `innerProd` is the corresponding fact about `msm`.
-/
import Mathlib.Tactic.Module
import Mathlib.Tactic.Ring
import Mathlib.Tactic.Abel
import Mathlib.Algebra.Module.Basic
import Mathlib.Algebra.BigOperators.Group.List.Basic
import GoIpa.Model.Multiproof
namespace GoIpa

section
variable {F G : Type} [Field F] [AddCommGroup G] [Module F G]

theorem foldl_add_eq_sum {M : Type} [AddCommMonoid M] (l : List M) (z : M) : l.foldl (· + ·) z = z + l.sum := by
  induction l generalizing z with
  | nil => simp
  | cons x xs ih => simp [ih, add_assoc]

theorem sumF_eq (l : List F) : sumF l = l.sum := by
  unfold sumF; rw [foldl_add_eq_sum]; simp

theorem msm_eq (ps : List G) (ss : List F) : msm ps ss = (List.zipWith (fun (s : F) (p : G) => s • p) ss ps).sum := by
  unfold msm; rw [foldl_add_eq_sum]; simp

theorem innerProd_eq_msm (a b : List F) : innerProd a b = msm b a := rfl

theorem foldScalars_eq_foldPoints (a b : List F) (x : F) : foldScalars a b x = foldPoints a b x := rfl

theorem innerProd_eq (a b : List F) : innerProd a b = (List.zipWith (· * ·) a b).sum := msm_eq b a

@[simp] theorem msm_nil_left (ss : List F) : msm ([] : List G) ss = 0 := by simp [msm_eq]
@[simp] theorem msm_nil_right (ps : List G) : msm ps ([] : List F) = 0 := by simp [msm_eq]
@[simp] theorem msm_cons (p : G) (ps : List G) (s : F) (ss : List F) : msm (p :: ps) (s :: ss) = s • p + msm ps ss := by
  simp [msm_eq]
@[simp] theorem innerProd_nil_left (b : List F) : innerProd ([] : List F) b = 0 := msm_nil_right b
@[simp] theorem innerProd_nil_right (a : List F) : innerProd a ([] : List F) = 0 := msm_nil_left a
@[simp] theorem innerProd_cons (x : F) (a : List F) (y : F) (b : List F) :
    innerProd (x :: a) (y :: b) = x * y + innerProd a b := msm_cons y b x a

/-! ### linearity in each argument -/

theorem msm_lin_scalars (f : F → F → F) (c c' : F) (hf : ∀ x x', f x x' = c * x + c' * x') :
    ∀ (g : List G) (a a' : List F), a.length = a'.length →
      msm g (List.zipWith f a a') = c • msm g a + c' • msm g a'
  | _, [], [], _ => by simp
  | [], _ :: _, _ :: _, _ => by simp
  | p :: g, x :: a, x' :: a', h => by
    simp only [List.zipWith_cons_cons, msm_cons, hf, msm_lin_scalars f c c' hf g a a' (by simpa using h),
      add_smul, mul_smul, smul_add]
    abel

theorem msm_lin_points (f : G → G → G) (c c' : F) (hf : ∀ p p', f p p' = c • p + c' • p') :
    ∀ (a : List F) (g g' : List G), g.length = g'.length →
      msm (List.zipWith f g g') a = c • msm g a + c' • msm g' a
  | _, [], [], _ => by simp
  | [], _ :: _, _ :: _, _ => by simp
  | s :: a, p :: g, p' :: g', h => by
    simp only [List.zipWith_cons_cons, msm_cons, hf, msm_lin_points f c c' hf a g g' (by simpa using h),
      smul_add, smul_comm s]
    abel

theorem msm_foldScalars (g : List G) (a a' : List F) (x : F) (h : a.length = a'.length) :
    msm g (foldScalars a a' x) = msm g a + x • msm g a' := by
  rw [foldScalars, msm_lin_scalars _ 1 x (fun _ _ => by rw [one_mul, add_comm]) g a a' h, one_smul]

theorem msm_foldPoints (g g' : List G) (a : List F) (x : F) (h : g.length = g'.length) :
    msm (foldPoints g g' x) a = msm g a + x • msm g' a := by
  rw [foldPoints, msm_lin_points _ 1 x (fun _ _ => by rw [one_smul, add_comm]) a g g' h, one_smul]

theorem msm_addVec (g : List G) (u v : List F) (h : u.length = v.length) : msm g (addVec u v) = msm g u + msm g v := by
  rw [addVec, msm_lin_scalars _ 1 1 (fun _ _ => by rw [one_mul, one_mul]) g u v h, one_smul, one_smul]

theorem msm_subVec (g : List G) (u v : List F) (h : u.length = v.length) :
    msm g (List.zipWith (· - ·) u v) = msm g u - msm g v := by
  rw [msm_lin_scalars _ 1 (-1) (fun _ _ => by rw [one_mul, neg_one_mul, sub_eq_add_neg]) g u v h, one_smul, neg_one_smul,
    sub_eq_add_neg]

theorem msm_map_mul (g : List G) (a : List F) (x : F) : msm g (a.map (x * ·)) = x • msm g a := by
  rw [msm_eq, msm_eq, List.zipWith_map_left, List.smul_sum, List.map_zipWith]
  simp only [mul_smul]

theorem msm_scaleVec (g : List G) (c : F) (v : List F) : msm g (scaleVec c v) = c • msm g v := msm_map_mul g v c

theorem msm_replicate_zero (g : List G) (N : Nat) : msm g (List.replicate N (0 : F)) = 0 := by
  rw [msm_eq]
  refine List.sum_eq_zero fun x hx => ?_
  obtain ⟨i, _, rfl⟩ := List.getElem_of_mem hx
  simp

/-! ### splitting -/

theorem msm_split (g : List G) (a : List F) (m : Nat) :
    msm g a = msm (g.take m) (a.take m) + msm (g.drop m) (a.drop m) := by
  rw [msm_eq, msm_eq, msm_eq, ← List.take_zipWith, ← List.drop_zipWith, List.sum_take_add_sum_drop]

theorem msm_append (g g' : List G) (a a' : List F) (h : g.length = a.length) :
    msm (g ++ g') (a ++ a') = msm g a + msm g' a' := by
  rw [msm_split _ _ g.length, List.take_left', List.drop_left', h, List.take_left', List.drop_left'] <;> rfl

/-! ### the same for `innerProd a b = msm b a` -/

theorem innerProd_comm (a b : List F) : innerProd a b = innerProd b a := by
  rw [innerProd_eq, innerProd_eq, List.zipWith_comm]
  simp only [mul_comm]

theorem innerProd_subVec (u v b : List F) (h : u.length = v.length) :
    innerProd (List.zipWith (· - ·) u v) b = innerProd u b - innerProd v b := msm_subVec b u v h

theorem innerProd_map_mul_left (u b : List F) (c : F) : innerProd (u.map (· * c)) b = c * innerProd u b := by
  simp only [mul_comm _ c]; exact msm_map_mul b u c

theorem foldScalars_length (a b : List F) (x : F) : (foldScalars a b x).length = min a.length b.length := by
  simp [foldScalars]

theorem foldPoints_length (a b : List G) (x : F) : (foldPoints a b x).length = min a.length b.length := by
  simp [foldPoints]

end
end GoIpa
