/-
  The algebra of the inner-product argument: one folding round, the recursion over all
  rounds, and the closed form of the folded basis / vector via the folding scalars.
-/
import GoIpa.Lemmas.Vec
import GoIpa.Lemmas.BatchInvert
namespace GoIpa

section
variable {F G : Type} [Field F] [AddCommGroup G] [Module F G]

/-- the statement a round reduces: `⟨a,g⟩ + ⟨a,b⟩ • q` -/
def ipaStmt (q : G) (a b : List F) (g : List G) : G := msm g a + innerProd a b • q

theorem half_length {α : Type} (l : List α) (m : Nat) (h : l.length = 2 * m) : (l.take m).length = (l.drop m).length := by
  rw [List.length_take, List.length_drop]; omega

/-- folding the scalars by `x` and the points by `x⁻¹` adds the two cross terms -/
theorem msm_fold_fold (g : List G) (a : List F) (m : Nat) (x : F) (hx : x ≠ 0)
    (ha : a.length = 2 * m) (hg : g.length = 2 * m) :
    msm (foldPoints (g.take m) (g.drop m) x⁻¹) (foldScalars (a.take m) (a.drop m) x)
      = msm g a + x • msm (g.take m) (a.drop m) + x⁻¹ • msm (g.drop m) (a.take m) := by
  have la := half_length a m ha
  rw [msm_foldPoints _ _ _ _ (half_length g m hg), msm_foldScalars _ _ _ _ la,
    msm_foldScalars _ _ _ _ la, msm_split g a m, smul_add, smul_smul, inv_mul_cancel₀ hx, one_smul]
  abel

/-- **One folding round.**  With `x ≠ 0`, folding `a` by `x` and `b`, `g` by `x⁻¹` changes the
statement by exactly `x • L + x⁻¹ • R`, where `L`, `R` are the prover's cross terms. -/
theorem round_identity (q : G) (a b : List F) (g : List G) (m : Nat) (x : F) (hx : x ≠ 0)
    (ha : a.length = 2 * m) (hb : b.length = 2 * m) (hg : g.length = 2 * m) :
    ipaStmt q (foldScalars (a.take m) (a.drop m) x) (foldScalars (b.take m) (b.drop m) x⁻¹)
        (foldPoints (g.take m) (g.drop m) x⁻¹)
      = ipaStmt q a b g
        + x • (msm (g.take m) (a.drop m) + innerProd (a.drop m) (b.take m) • q)
        + x⁻¹ • (msm (g.drop m) (a.take m) + innerProd (a.take m) (b.drop m) • q) := by
  unfold ipaStmt
  -- `⟨a,b⟩ = msm b a` over `F`: the `b` part is the `g` part once more
  rw [innerProd_eq_msm, foldScalars_eq_foldPoints (b.take m), msm_fold_fold g a m x hx ha hg,
    msm_fold_fold b a m x hx ha hb]
  simp only [innerProd_eq_msm, smul_add, add_smul, smul_smul, smul_eq_mul]
  abel

/-- the folded vector after all rounds: challenges are consumed front to back -/
def foldAllScalars : List F → List F → List F
  | [], v => v
  | x :: xs, v => foldAllScalars xs (foldScalars (v.take (v.length / 2)) (v.drop (v.length / 2)) x)

def foldAllPoints : List F → List G → List G
  | [], v => v
  | x :: xs, v => foldAllPoints xs (foldPoints (v.take (v.length / 2)) (v.drop (v.length / 2)) x)

/-- the folding scalars in recursive form: `fsRec [] = [1]`,
`fsRec (x :: xs) = fsRec xs ++ x • fsRec xs` -/
def fsRec : List F → List F
  | [] => [1]
  | x :: xs => fsRec xs ++ (fsRec xs).map (x * ·)

theorem fsRec_length (xs : List F) : (fsRec xs).length = 2 ^ xs.length := by
  induction xs with
  | nil => simp [fsRec]
  | cons x xs ih => simp [fsRec, ih, pow_succ]; ring

/-- **Closed form of the folded basis**: after folding `g` (length `2^n`) with the challenges
`xs`, the single remaining point is `Σ fsRec(xs)ᵢ • gᵢ`. -/
theorem foldAllPoints_eq (xs : List F) (g : List G) (hg : g.length = 2 ^ xs.length) :
    foldAllPoints xs g = [msm g (fsRec xs)] := by
  induction xs generalizing g with
  | nil =>
    match g, hg with
    | [p], _ => simp [foldAllPoints, fsRec]
  | cons x xs ih =>
    have hlen : g.length = 2 * 2 ^ xs.length := by rw [hg, List.length_cons, pow_succ, Nat.mul_comm]
    have hhalf : g.length / 2 = 2 ^ xs.length := by omega
    have htd := half_length g _ hlen
    have ht : (g.take (2 ^ xs.length)).length = 2 ^ xs.length := by rw [List.length_take]; omega
    rw [foldAllPoints, hhalf, ih _ (by rw [foldPoints_length, ← htd, Nat.min_self, ht]), msm_foldPoints _ _ _ _ htd]
    conv_rhs => rw [← List.take_append_drop (2 ^ xs.length) g]
    rw [fsRec, msm_append _ _ _ _ (by rw [ht, fsRec_length]), msm_map_mul]

theorem foldAllScalars_eq_foldAllPoints (xs v : List F) : foldAllScalars xs v = foldAllPoints xs v := by
  induction xs generalizing v with
  | nil => rfl
  | cons x xs ih => exact ih _

theorem foldAllScalars_eq (xs : List F) (b : List F) (hb : b.length = 2 ^ xs.length) :
    foldAllScalars xs b = [innerProd b (fsRec xs)] := by
  rw [foldAllScalars_eq_foldAllPoints, foldAllPoints_eq xs b hb, innerProd_comm, innerProd_eq_msm]

end
end GoIpa
