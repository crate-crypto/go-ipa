/-
  The executable `Zp n` of the model is `ZMod n`: an injective map that preserves every operation
  the model uses (including the square-and-multiply power and, for prime `n`, the Fermat inverse),
  and a Lucas/Pratt primality criterion evaluated with the model's own power function.
-/
import Mathlib.Data.ZMod.Basic
import Mathlib.NumberTheory.LucasPrimality
import Mathlib.FieldTheory.Finite.Basic
import Mathlib.Tactic.Ring
import GoIpa.Model.Field
namespace GoIpa.Zp
open GoIpa

variable {n : ℕ} [NeZero n]

/-- the canonical representative, read in `ZMod n` -/
def toZ (a : Zp n) : ZMod n := (a.val : ZMod n)

theorem toZ_injective : Function.Injective (toZ : Zp n → ZMod n) := by
  intro a b h
  unfold toZ at h
  rw [ZMod.natCast_eq_natCast_iff'] at h
  rw [Nat.mod_eq_of_lt a.lt, Nat.mod_eq_of_lt b.lt] at h
  cases a; cases b; simp_all

theorem toZ_ofNat (a : ℕ) : toZ (ofNat n a) = (a : ZMod n) := by
  unfold toZ ofNat; simp

@[simp] theorem toZ_zero : toZ (0 : Zp n) = 0 := by
  show toZ (ofNat n 0) = 0; rw [toZ_ofNat]; simp
theorem toZ_eq_zero {a : Zp n} : toZ a = 0 ↔ a = 0 := by
  rw [← toZ_injective.eq_iff, toZ_zero]
@[simp] theorem toZ_one : toZ (1 : Zp n) = 1 := by
  show toZ (ofNat n 1) = 1; rw [toZ_ofNat]; simp
@[simp] theorem toZ_natCast (k : ℕ) : toZ ((k : ℕ) : Zp n) = (k : ZMod n) := by
  show toZ (ofNat n k) = _; rw [toZ_ofNat]
@[simp] theorem toZ_add (a b : Zp n) : toZ (a + b) = toZ a + toZ b := by
  show toZ (ofNat n (a.val + b.val)) = _; rw [toZ_ofNat]; simp [toZ]
@[simp] theorem toZ_mul (a b : Zp n) : toZ (a * b) = toZ a * toZ b := by
  show toZ (ofNat n (a.val * b.val)) = _; rw [toZ_ofNat]; simp [toZ]
@[simp] theorem toZ_neg (a : Zp n) : toZ (-a) = -toZ a := by
  show toZ (ofNat n (n - a.val)) = _
  rw [toZ_ofNat, Nat.cast_sub (Nat.le_of_lt a.lt)]; simp [toZ]
@[simp] theorem toZ_sub (a b : Zp n) : toZ (a - b) = toZ a - toZ b := by
  show toZ (ofNat n (a.val + (n - b.val))) = _
  rw [toZ_ofNat, Nat.cast_add, Nat.cast_sub (Nat.le_of_lt b.lt)]; simp [toZ]; ring

theorem toZ_powAux (fuel : ℕ) (b : Zp n) (e : ℕ) (acc : Zp n) (h : e < 2 ^ fuel) :
    toZ (powAux fuel b e acc) = toZ acc * toZ b ^ e := by
  induction fuel generalizing b e acc with
  | zero =>
    have : e = 0 := by simpa using h
    subst this; simp [powAux]
  | succ fuel ih =>
    unfold powAux
    by_cases he : e = 0
    · subst he; simp
    · rw [if_neg he]
      have hlt : e / 2 < 2 ^ fuel := by
        rw [Nat.div_lt_iff_lt_mul (by decide)]; rw [Nat.pow_succ] at h; exact h
      rw [ih _ _ _ hlt]
      have hsplit : e = 2 * (e / 2) + e % 2 := (Nat.div_add_mod e 2).symm
      by_cases hodd : e % 2 = 1
      · rw [if_pos hodd]
        conv_rhs => rw [hsplit, hodd]
        rw [toZ_mul, toZ_mul, pow_succ, pow_mul, pow_two]; ring
      · rw [if_neg hodd]
        have : e % 2 = 0 := by omega
        conv_rhs => rw [hsplit, this]
        rw [toZ_mul, Nat.add_zero, pow_mul, pow_two]

/-- the model's square-and-multiply is exponentiation -/
theorem toZ_pow (a : Zp n) (e : ℕ) : toZ (a ^ e) = toZ a ^ e := by
  show toZ (powAux (e.log2 + 1) a e 1) = _
  rw [toZ_powAux _ _ _ _ Nat.lt_log2_self]; simp

theorem val_eq_of_toZ_eq_natCast (a : Zp n) (k : ℕ) (hk : k < n) (h : toZ a = (k : ZMod n)) : a.val = k := by
  unfold toZ at h
  rw [ZMod.natCast_eq_natCast_iff', Nat.mod_eq_of_lt a.lt, Nat.mod_eq_of_lt hk] at h
  exact h

theorem toZ_eq_natCast_iff (a : Zp n) (k : ℕ) (hk : k < n) : toZ a = (k : ZMod n) ↔ a.val = k :=
  ⟨val_eq_of_toZ_eq_natCast a k hk, fun h => by rw [toZ, h]⟩

theorem prime_mem_of_dvd (q : ℕ) (hq : q.Prime) (l : List (ℕ × ℕ)) (hl : ∀ e ∈ l, e.1.Prime)
    (hd : q ∣ (l.map fun e => e.1 ^ e.2).prod) : ∃ e ∈ l, e.1 = q := by
  induction l with
  | nil => simp at hd; exact absurd hd hq.one_lt.ne'
  | cons x l ih =>
    simp only [List.map_cons, List.prod_cons] at hd
    rcases (Nat.Prime.dvd_mul hq).mp hd with h | h
    · have := Nat.Prime.dvd_of_dvd_pow hq h
      have := (Nat.prime_dvd_prime_iff_eq hq (hl x List.mem_cons_self)).mp this
      exact ⟨x, List.mem_cons_self, this.symm⟩
    · obtain ⟨e, he, heq⟩ := ih (fun e he => hl e (List.mem_cons_of_mem _ he)) h
      exact ⟨e, List.mem_cons_of_mem _ he, heq⟩

/-- **Lucas/Pratt criterion with the model's power function.** -/
theorem lucas_cert (p a : ℕ) [NeZero p] (hp : 1 < p) (l : List (ℕ × ℕ)) (hl : ∀ e ∈ l, e.1.Prime)
    (hprod : (l.map fun e => e.1 ^ e.2).prod = p - 1)
    (h1 : ((ofNat p a) ^ (p - 1)).val = 1)
    (h2 : ∀ e ∈ l, ((ofNat p a) ^ ((p - 1) / e.1)).val ≠ 1) : p.Prime := by
  apply lucas_primality p (a : ZMod p)
  · have := toZ_pow (ofNat p a) (p - 1)
    rw [toZ_ofNat] at this
    rw [← this]
    unfold toZ; rw [h1]; simp
  · intro q hq hd
    rw [← hprod] at hd
    obtain ⟨e, he, rfl⟩ := prime_mem_of_dvd q hq l hl hd
    intro hone
    apply h2 e he
    have := toZ_pow (ofNat p a) ((p - 1) / e.1)
    rw [toZ_ofNat, hone] at this
    exact val_eq_of_toZ_eq_natCast _ 1 hp (by rw [this]; simp)

section prime
variable {p : ℕ} [hp : Fact p.Prime] [h2 : Fact (2 < p)]

instance neZeroOfPrime : NeZero p := ⟨hp.out.ne_zero⟩

def ofZ (x : ZMod p) : Zp p := ofNat p x.val

theorem toZ_ofZ (x : ZMod p) : toZ (ofZ x) = x := by
  unfold ofZ; rw [toZ_ofNat]; simp

theorem isSquare_toZ_iff (a : Zp p) : IsSquare (toZ a) ↔ IsSquare a :=
  ⟨fun ⟨r, hr⟩ => ⟨ofZ r, toZ_injective (by rw [hr, toZ_mul, toZ_ofZ])⟩, fun ⟨r, hr⟩ => ⟨toZ r, by rw [hr, toZ_mul]⟩⟩

/-- the Fermat inverse of the model is the field inverse (`0⁻¹ = 0` on both sides) -/
theorem toZ_inv (a : Zp p) : toZ a⁻¹ = (toZ a)⁻¹ := by
  show toZ (a ^ (p - 2)) = _
  rw [toZ_pow]
  by_cases h0 : toZ a = 0
  · rw [h0, inv_zero, zero_pow]
    have := h2.out; omega
  · have h1 := ZMod.pow_card_sub_one_eq_one h0
    have hsplit : p - 1 = (p - 2) + 1 := by have := h2.out; omega
    rw [hsplit, pow_succ] at h1
    exact eq_inv_of_mul_eq_one_left h1

theorem toZ_div (a b : Zp p) : toZ (a / b) = toZ a / toZ b := by
  show toZ (a * b⁻¹) = _
  rw [toZ_mul, toZ_inv, div_eq_mul_inv]

instance : SMul ℕ (Zp p) := ⟨fun k a => ofZ (k • toZ a)⟩
instance : SMul ℤ (Zp p) := ⟨fun k a => ofZ (k • toZ a)⟩
instance : SMul ℚ≥0 (Zp p) := ⟨fun k a => ofZ (k • toZ a)⟩
instance : SMul ℚ (Zp p) := ⟨fun k a => ofZ (k • toZ a)⟩
instance : Pow (Zp p) ℕ := ⟨pow⟩
instance : Pow (Zp p) ℤ := ⟨fun a k => ofZ (toZ a ^ k)⟩
instance : IntCast (Zp p) := ⟨fun k => ofZ (k : ZMod p)⟩
instance : NNRatCast (Zp p) := ⟨fun k => ofZ (k : ZMod p)⟩
instance : RatCast (Zp p) := ⟨fun k => ofZ (k : ZMod p)⟩

/-- **`Zp p` is a field** whose `0, 1, +, ·, −, ⁻¹, /, ^, ℕ-cast` are the executable operations
of the model -/
instance field : Field (Zp p) :=
  toZ_injective.field toZ toZ_zero toZ_one toZ_add toZ_mul toZ_neg toZ_sub toZ_inv toZ_div
    (fun _ _ => toZ_ofZ _) (fun _ _ => toZ_ofZ _) (fun _ _ => toZ_ofZ _) (fun _ _ => toZ_ofZ _)
    (fun x k => toZ_pow x k) (fun _ _ => toZ_ofZ _) toZ_natCast (fun _ => toZ_ofZ _) (fun _ => toZ_ofZ _)
    (fun _ => toZ_ofZ _)

def equivZMod : Zp p ≃+* ZMod p where
  toFun := toZ
  invFun := ofZ
  left_inv a := toZ_injective (toZ_ofZ _)
  right_inv := toZ_ofZ
  map_mul' := toZ_mul
  map_add' := toZ_add

end prime

end GoIpa.Zp
