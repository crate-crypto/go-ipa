/-
  `Element.Exp` and `Element.Sqrt` of the scalar field are correct: `Exp` is exponentiation,
  and Tonelli–Shanks (2-adicity 5) returns `nil` exactly for non-residues and otherwise a root.
  The loop is analysed through the 2-Sylow subgroup: `x^s` is one of the 32 powers of the
  hard-coded `g`, and the loop's behaviour on those 32 elements is checked by the kernel.
-/
import Mathlib.Data.ZMod.Basic
import Mathlib.RingTheory.RootsOfUnity.PrimitiveRoots
import Mathlib.NumberTheory.LegendreSymbol.Basic
import Mathlib.Tactic.Ring
import Mathlib.Tactic.LinearCombination
import GoIpa.Model.FrSqrt
import GoIpa.Lemmas.ZpEuler
import GoIpa.Lemmas.Primes
namespace GoIpa.FrSqrt
open GoIpa GoIpa.Zp

instance : Fact (Nat.Prime R) := ⟨Primes.R_prime⟩
instance : Fact (2 < R) := ⟨by decide⟩

/-! ### `Exp` -/

def foldBits (bits : List Bool) (a : ℕ) : ℕ := bits.foldl (fun a b => 2 * a + (if b then 1 else 0)) a

theorem expBits_spec (x : Fr) (bits : List Bool) (z : Fr) (a : ℕ) (h : Zp.toZ z = Zp.toZ x ^ a) :
    Zp.toZ (expBits x bits z) = Zp.toZ x ^ foldBits bits a := by
  induction bits generalizing z a with
  | nil => simpa [expBits, foldBits] using h
  | cons b bs ih =>
    unfold expBits foldBits
    simp only [List.foldl_cons]
    apply ih
    cases b
    · simp only [Bool.false_eq_true, ↓reduceIte, toZ_mul, h, Nat.add_zero]; ring
    · simp only [↓reduceIte, toZ_mul, h]; ring

theorem lowBits_spec : ∀ (fuel e : ℕ), 1 ≤ e → e < 2 ^ fuel → foldBits (lowBits fuel e) 1 = e := by
  intro fuel
  induction fuel with
  | zero => intro e h1 h2; simp at h2; omega
  | succ fuel ih =>
    intro e h1 h2
    unfold lowBits
    by_cases hle : e ≤ 1
    · rw [if_pos hle]; simp [foldBits]; omega
    · rw [if_neg hle]
      have := ih (e / 2) (by omega) (by rw [Nat.pow_succ] at h2; omega)
      unfold foldBits at this ⊢
      rw [List.foldl_append, this]
      simp only [List.foldl_cons, List.foldl_nil]
      by_cases hodd : e % 2 = 1
      · simp only [hodd, decide_true, ↓reduceIte]; omega
      · simp only [hodd, decide_false, Bool.false_eq_true, ↓reduceIte]; omega

/-- **`Exp` is exponentiation** (most-significant-bit-first square-and-multiply) -/
theorem exp_spec (x : Fr) (e : ℕ) : Zp.toZ (exp x e) = Zp.toZ x ^ e := by
  unfold exp
  by_cases h0 : e = 0
  · rw [if_pos h0, h0]; simp
  · rw [if_neg h0, expBits_spec x _ x 1 (by simp), lowBits_spec _ e (by omega) Nat.lt_log2_self]

/-! ### the 2-Sylow subgroup -/

theorem sqN_spec (n : ℕ) (t : Fr) : Zp.toZ (sqN n t) = Zp.toZ t ^ (2 ^ n) := by
  induction n generalizing t with
  | zero => simp [sqN]
  | succ n ih => rw [sqN, ih, toZ_mul, pow_succ, pow_mul', pow_two]

theorem g_order : (gConst ^ 16).val = R - 1 ∧ (gConst ^ 32).val = 1 := by decide +kernel

theorem g_primitive : IsPrimitiveRoot (Zp.toZ gConst) 32 := by
  have h16 : ¬ Zp.toZ gConst ^ 2 ^ 4 = 1 := by
    intro h
    have := toZ_pow gConst 16
    rw [show (2:ℕ) ^ 4 = 16 by norm_num] at h
    rw [h] at this
    have hv := (toZ_eq_one_iff _).mp this
    have := g_order.1
    rw [this] at hv
    have hne : R - 1 ≠ 1 := by unfold R; omega
    exact absurd hv hne
  have h32 : Zp.toZ gConst ^ 2 ^ (4 + 1) = 1 := by
    rw [show (2:ℕ) ^ (4 + 1) = 32 by norm_num, ← toZ_pow]
    exact (toZ_eq_one_iff _).mpr g_order.2
  have := orderOf_eq_prime_pow h16 h32
  rw [show (2:ℕ) ^ (4 + 1) = 32 by norm_num] at this
  rw [← this]
  exact IsPrimitiveRoot.orderOf _

/-- every 32nd root of unity of the model's field is a power of `g` -/
theorem eq_pow_g (b : Fr) (hb : Zp.toZ b ^ 32 = 1) : ∃ k, k < 32 ∧ b = Zp.pow gConst k := by
  obtain ⟨k, hk, hkb⟩ := g_primitive.eq_pow_of_pow_eq_one hb
  refine ⟨k, hk, ?_⟩
  apply toZ_injective
  rw [← hkb]
  exact (toZ_pow gConst k).symm

/-! ### the loop -/

theorem loop_scale (fuel : ℕ) (g y b : Fr) (r : ℕ) :
    loop fuel g y b r = (loop fuel g 1 b r).map (y * ·) := by
  induction fuel generalizing g y b r with
  | zero => rfl
  | succ fuel ih =>
    unfold loop
    simp only
    by_cases hm : countSq r b = 0
    · rw [if_pos hm, if_pos hm]
      simp only [Option.map_some]
      congr 1
      apply toZ_injective; simp
    · rw [if_neg hm, if_neg hm, ih, ih (y := 1 * _), Option.map_map]
      congr 1
      funext z
      simp only [Function.comp]
      apply toZ_injective; simp only [toZ_mul, toZ_one]; ring

/-- what the loop does on each of the 32 elements of the 2-Sylow subgroup -/
def sylowCheck (k : ℕ) : Bool :=
  let b := Zp.pow gConst k
  if (sqN 4 b).val = 1 then
    match loop 6 gConst 1 b 5 with
    | some y => (y * y * b).val == 1
    | none => false
  else (sqN 4 b).val == R - 1

theorem sylow_table : ∀ k ∈ List.range 32, sylowCheck k = true := by decide +kernel

/-! ### `Sqrt` -/

theorem sOdd_facts : 2 * ((sOdd - 1) / 2) + 1 = sOdd ∧ 32 * sOdd = R - 1 ∧ 16 * sOdd = R / 2 := by decide

/-- `b = w·(0·w) = 0`, so the Legendre value `b^16` is `0` -/
theorem sqrt_zero : sqrt (0 : Fr) = some 0 := by
  have h : (sqN 4 (exp 0 ((sOdd - 1) / 2) * (0 * exp 0 ((sOdd - 1) / 2)))).val = 0 :=
    val_eq_of_toZ_eq_natCast _ 0 (by decide) (by rw [sqN_spec, toZ_mul, toZ_mul, toZ_zero]; simp)
  unfold sqrt
  exact if_pos h

/-- **`Sqrt` (Tonelli–Shanks, 2-adicity 5).** For every scalar `x`: if `Sqrt` returns `y` then
`y² = x`; it returns `nil` exactly when `x` is not a square; `Sqrt(0) = 0`. -/
theorem sqrt_spec (x : Fr) :
    (∀ y, sqrt x = some y → y * y = x) ∧ (sqrt x = none ↔ ¬ IsSquare (Zp.toZ x)) := by
  by_cases hx0 : x = 0
  · subst hx0
    rw [sqrt_zero]
    refine ⟨?_, ?_⟩
    · intro y hy
      have : y = 0 := by injection hy with h; exact h.symm
      subst this; apply toZ_injective; simp
    · constructor
      · intro h; cases h
      · intro h; exfalso; apply h; rw [toZ_zero]; exact ⟨0, by simp⟩
  have hxz : Zp.toZ x ≠ 0 := by
    intro h; apply hx0; apply toZ_injective; rw [h, toZ_zero]
  obtain ⟨hs1, hs32, hs16⟩ := sOdd_facts
  -- the three derived values
  set w := exp x ((sOdd - 1) / 2) with hw
  have hwz : Zp.toZ w = Zp.toZ x ^ ((sOdd - 1) / 2) := exp_spec x _
  have hbz : Zp.toZ (w * (x * w)) = Zp.toZ x ^ sOdd := by
    rw [toZ_mul, toZ_mul, hwz]
    conv_rhs => rw [← hs1]
    rw [pow_succ, pow_mul]; ring
  have hyz : Zp.toZ (x * w) * Zp.toZ (x * w) = Zp.toZ x * Zp.toZ (w * (x * w)) := by
    rw [toZ_mul, toZ_mul, toZ_mul]; ring
  have hb32 : Zp.toZ (w * (x * w)) ^ 32 = 1 := by
    rw [hbz, ← pow_mul, Nat.mul_comm, hs32]
    exact ZMod.pow_card_sub_one_eq_one hxz
  obtain ⟨k, hk, hbk⟩ := eq_pow_g (w * (x * w)) hb32
  have htab := sylow_table k (List.mem_range.mpr hk)
  -- the Legendre test value is `x^((r-1)/2)`
  have ht : Zp.toZ (sqN 4 (w * (x * w))) = Zp.toZ x ^ (R / 2) := by
    rw [sqN_spec, hbz, ← pow_mul, show (2:ℕ) ^ 4 = 16 by norm_num, Nat.mul_comm, hs16]
  have heuler := ZMod.euler_criterion R hxz
  unfold sqrt
  simp only
  rw [← hw]
  unfold sylowCheck at htab
  simp only at htab
  rw [← hbk] at htab
  by_cases ht1 : (sqN 4 (w * (x * w))).val = 1
  · -- residue
    rw [if_pos ht1] at htab
    have hsq : IsSquare (Zp.toZ x) := by
      rw [heuler, ← ht]; exact (toZ_eq_one_iff _).mpr ht1
    rw [if_neg (by omega), if_neg (by omega), loop_scale]
    cases hl : loop 6 gConst 1 (w * (x * w)) 5 with
    | none => rw [hl] at htab; simp at htab
    | some yk =>
      rw [hl] at htab
      simp only [beq_iff_eq] at htab
      have hyk : Zp.toZ yk * Zp.toZ yk * Zp.toZ (w * (x * w)) = 1 := by
        have := (toZ_eq_one_iff (yk * yk * (w * (x * w)))).mpr htab
        simpa only [toZ_mul] using this
      refine ⟨?_, ?_⟩
      · intro y hy
        simp only [Option.map_some, Option.some.injEq] at hy
        subst hy
        apply toZ_injective
        simp only [toZ_mul] at hyk ⊢
        linear_combination (Zp.toZ x) * hyk
      · constructor
        · intro h; simp at h
        · intro h; exact absurd hsq h
  · -- non-residue: the test value is −1
    rw [if_neg ht1] at htab
    simp only [beq_iff_eq] at htab
    have hnsq : ¬ IsSquare (Zp.toZ x) := by
      rw [heuler, ← ht]
      intro h; exact ht1 ((toZ_eq_one_iff _).mp h)
    have hne0 : (sqN 4 (w * (x * w))).val ≠ 0 := by
      rw [htab]; unfold R; omega
    rw [if_neg hne0, if_pos ht1]
    exact ⟨fun y hy => (by cases hy), fun _ => hnsq, fun _ => rfl⟩

/-! ### `Exp` and `Legendre` against the model's own power -/

theorem exp_eq_pow (x : Fr) (e : ℕ) : exp x e = x ^ e := by
  apply toZ_injective; rw [exp_spec, toZ_pow]

/-- **`Legendre`.** `x^((r−1)/2)` is `0` for `0`, `1` for non-zero squares and `−1` otherwise. -/
theorem legendre_spec (x : Fr) :
    (Fr.legendre x = 0 ↔ x = 0) ∧ (Fr.legendre x = 1 ↔ (x ≠ 0 ∧ IsSquare (Zp.toZ x))) :=
  Zp.legendre_spec x

end GoIpa.FrSqrt
