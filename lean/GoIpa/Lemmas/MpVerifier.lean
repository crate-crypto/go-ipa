/-
  Verifier-side facts of the multiproof: what the grouped evaluations, the inverse
  denominators, `g₂(t)` and the MSM scalars are, for every statement.
-/
import GoIpa.Lemmas.MpComplete
namespace GoIpa.Mp
open GoIpa GoIpa.Grouping

variable {F G : Type} [Field F] [DecidableEq F] [AddCommGroup G] [Module F G]

/-- the verifier's grouped evaluations -/
def groupedEvals (N : Nat) (l : List (F × F × Nat)) (init : List F) : List F :=
  l.foldl (fun (ge : List F) (e : F × F × Nat) => ge.set e.2.2 (ge.getD e.2.2 0 + e.1 * e.2.1)) init

theorem set_add_getD (l : List F) (z0 : Nat) (c : F) (hz : z0 < l.length) (z : Nat) :
    (l.set z0 (l.getD z0 0 + c)).getD z 0 = l.getD z 0 + (if z = z0 then c else 0) := by
  by_cases h : z = z0
  · subst h
    simp [List.getD_eq_getElem?_getD, hz]
  · rw [if_neg h, add_zero, List.getD_eq_getElem?_getD, List.getElem?_set_ne (Ne.symm h), List.getD_eq_getElem?_getD]

/-- the verifier's table entry `z` collects the terms of the openings at `z` -/
theorem groupedEvals_getD (N : Nat) (l : List (F × F × Nat)) (init : List F)
    (hi : init.length = N) (hl : ∀ e ∈ l, e.2.2 < N) :
    (groupedEvals N l init).length = N ∧ ∀ z, (groupedEvals N l init).getD z 0 =
      init.getD z 0 + ((l.filter fun e => e.2.2 = z).map fun e => e.1 * e.2.1).sum := by
  induction l generalizing init with
  | nil => simp [groupedEvals, hi]
  | cons e l ih =>
    have hz : e.2.2 < init.length := by rw [hi]; exact hl e List.mem_cons_self
    obtain ⟨h1, h2⟩ := ih (init.set e.2.2 (init.getD e.2.2 0 + e.1 * e.2.1)) (by simp [hi])
      (fun e' he' => hl e' (List.mem_cons_of_mem _ he'))
    refine ⟨h1, fun z => ?_⟩
    rw [groupedEvals, List.foldl_cons, ← groupedEvals, h2 z, set_add_getD init e.2.2 _ hz z]
    by_cases h : e.2.2 = z
    · subst h; simp [add_assoc]
    · simp [h, Ne.symm h]

/-- **Grouped evaluations.** Any weighted sum over the table of grouped evaluations is the sum
over the openings, each weighted by the weight of its own evaluation point. -/
theorem groupedEvals_sum (N : Nat) (ψ : Nat → F) (l : List (F × F × Nat)) (hl : ∀ e ∈ l, e.2.2 < N) :
    ((List.range N).map fun z => ψ z * (groupedEvals N l (List.replicate N 0)).getD z 0).sum =
      (l.map fun e => ψ e.2.2 * (e.1 * e.2.1)).sum := by
  rw [← sum_groupBy N (fun e : F × F × Nat => e.2.2) (fun e _ => e.1 * e.2.1) ψ l hl]
  apply congrArg
  apply List.map_congr_left
  intro z _
  rw [(groupedEvals_getD N l _ (by simp) hl).2 z, replicate_getD_zero, zero_add]

/-- the verifier's inverse denominators -/
theorem denInv_getD (N : Nat) (t : F) (z : Nat) (hz : z < N) :
    (batchInvert ((List.range N).map fun (i : Nat) => t - (i : F))).getD z 0 = (t - (z : F))⁻¹ := by
  rw [batchInvert_eq_map, List.map_map, List.getD_eq_getElem?_getD, List.getElem?_map, List.getElem?_range hz]
  simp

/-- the zero-skipping accumulation of `g₂(t)` is the plain sum -/
theorem g2_fold (l : List (F × F)) (acc : F) :
    l.foldl (fun (acc : F) (e : F × F) => if e.1 = 0 then acc else acc + e.1 * e.2) acc
      = acc + (l.map fun e => e.1 * e.2).sum := by
  induction l generalizing acc with
  | nil => simp
  | cons e l ih =>
    simp only [List.foldl_cons, List.map_cons, List.sum_cons, ih]
    by_cases h : e.1 = 0
    · simp [h]
    · simp only [h, ↓reduceIte]; ring

theorem zip_map_sum_range (as bs : List F) (h : as.length = bs.length) :
    ((List.zip as bs).map fun e => e.1 * e.2).sum = ((List.range as.length).map fun i => as.getD i 0 * bs.getD i 0).sum := by
  rw [← zipWith_sum_range (fun a b => a * b) as bs 0 0 h, List.map_zip_eq_zipWith]
  rfl

theorem zip3_sum_range {α β γ : Type} (φ : α × β × γ → F) (as : List α) (bs : List β) (cs : List γ)
    (da : α) (db : β) (dc : γ) (h1 : as.length = bs.length) (h2 : bs.length = cs.length) :
    ((List.zip as (List.zip bs cs)).map φ).sum =
      ((List.range as.length).map fun i => φ (as.getD i da, bs.getD i db, cs.getD i dc)).sum := by
  have hz : (List.zip as (List.zip bs cs)).map φ = List.zipWith (fun a bc => φ (a, bc)) as (List.zip bs cs) := by
    rw [List.map_zip_eq_zipWith]
    rfl
  rw [hz, zipWith_sum_range (fun a bc => φ (a, bc)) as (List.zip bs cs) da (db, dc) (by simp [h1, h2])]
  apply congrArg
  apply List.map_congr_left
  intro i hi
  have hi' : i < as.length := List.mem_range.mp hi
  have hb : i < bs.length := by omega
  have hc : i < cs.length := by omega
  simp [List.getD_eq_getElem?_getD, hb, hc]

theorem honestYs_getD (fs : List (List F)) (zs : List Nat) (hl : fs.length = zs.length) (i : Nat) (hi : i < fs.length) :
    (honestYs fs zs).getD i 0 = (fs.getD i []).getD (zs.getD i 0) 0 := by
  unfold honestYs
  have h2 : i < zs.length := by omega
  rw [List.getD_eq_getElem?_getD, List.getElem?_zipWith]
  simp [List.getElem?_eq_getElem hi, List.getElem?_eq_getElem h2, List.getD_eq_getElem?_getD]

/-- `g₂(t)` of the implementation for arbitrary claimed values -/
theorem g2_eq (N : Nat) (ys pows : List F) (zs : List Nat) (t : F)
    (hl : ys.length = zs.length) (hp : pows.length = ys.length) (hz : ∀ z ∈ zs, z < N) :
    (List.zip (groupedEvals N (List.zip pows (List.zip ys zs)) (List.replicate N 0))
        (batchInvert ((List.range N).map fun (i : Nat) => t - (i : F)))).foldl
        (fun (acc : F) (e : F × F) => if e.1 = 0 then acc else acc + e.1 * e.2) 0
      = ((List.range ys.length).map fun i =>
          (t - ((zs.getD i 0 : Nat) : F))⁻¹ * (pows.getD i 0 * ys.getD i 0)).sum := by
  have hmem : ∀ e ∈ List.zip pows (List.zip ys zs), e.2.2 < N := by
    intro e he
    exact hz _ (List.of_mem_zip (List.of_mem_zip he).2).2
  have glen := (groupedEvals_getD N (List.zip pows (List.zip ys zs)) (List.replicate N 0) (by simp) hmem).1
  rw [g2_fold, zero_add, zip_map_sum_range _ _ (by rw [glen, batchInvert_length]; simp), glen]
  have hL : ((List.range N).map fun i =>
      (groupedEvals N (List.zip pows (List.zip ys zs)) (List.replicate N 0)).getD i 0 *
        (batchInvert ((List.range N).map fun (i : Nat) => t - (i : F))).getD i 0).sum
      = ((List.range N).map fun z => (t - ((z : Nat) : F))⁻¹ *
        (groupedEvals N (List.zip pows (List.zip ys zs)) (List.replicate N 0)).getD z 0).sum := by
    apply congrArg
    apply List.map_congr_left
    intro z hz'
    rw [denInv_getD N t z (List.mem_range.mp hz')]; ring
  rw [hL, groupedEvals_sum N _ _ hmem, zip3_sum_range _ pows ys zs 0 0 0 (by rw [hp]) hl, hp]

/-- **`g₂(t)` of the verifier** is `Σᵢ rⁱ yᵢ / (t − zᵢ)` for the honest values. -/
theorem verifier_g2 (N : Nat) (fs : List (List F)) (pows : List F) (zs : List Nat) (t : F)
    (hl : fs.length = zs.length) (hp : pows.length = fs.length) (hz : ∀ z ∈ zs, z < N) :
    (List.zip (groupedEvals N (List.zip pows (List.zip (honestYs fs zs) zs)) (List.replicate N 0))
        (batchInvert ((List.range N).map fun (i : Nat) => t - (i : F)))).foldl
        (fun (acc : F) (e : F × F) => if e.1 = 0 then acc else acc + e.1 * e.2) 0
      = ((List.range fs.length).map fun i =>
          (t - ((zs.getD i 0 : Nat) : F))⁻¹ * (pows.getD i 0 * (fs.getD i []).getD (zs.getD i 0) 0)).sum := by
  have hyl : (honestYs fs zs).length = zs.length := by simp [honestYs, hl]
  rw [g2_eq N (honestYs fs zs) pows zs t hyl (by rw [hp, hyl, hl]) hz, hyl, ← hl]
  apply congrArg
  apply List.map_congr_left
  intro i hi
  rw [honestYs_getD fs zs hl i (List.mem_range.mp hi)]

/-- the verifier's MSM scalars are `rⁱ/(t − zᵢ)` -/
theorem verifier_scalars (N : Nat) (pows : List F) (zs : List Nat) (t : F) (hz : ∀ z ∈ zs, z < N) :
    List.zipWith (fun (p : F) (z : Nat) =>
        p * (batchInvert ((List.range N).map fun (i : Nat) => t - (i : F))).getD z 0) pows zs
      = mpScalars pows zs t := by
  unfold mpScalars
  induction pows generalizing zs with
  | nil => simp
  | cons p pows ih =>
    cases zs with
    | nil => simp
    | cons z zs =>
      simp only [List.zipWith_cons_cons]
      rw [denInv_getD N t z (hz z List.mem_cons_self), ih zs (fun z' h' => hz z' (List.mem_cons_of_mem _ h'))]

end GoIpa.Mp
