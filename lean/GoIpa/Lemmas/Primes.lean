/-
  Kernel-checked primality of the two field moduli by Pratt certificates: a table of Lucas tests
  (with the model's square-and-multiply) whose prime factors are later lines of the table or small
  primes (`norm_num`).  The factorisations come from sympy; they are re-checked here, nothing about
  them is trusted.
-/
import Mathlib.Tactic.NormNum.Prime
import GoIpa.Lemmas.ZpField
namespace GoIpa.Primes
open GoIpa GoIpa.Zp

/-- the Lucas test of `Zp.lucas_cert`: `fs` factors `p - 1` and `a` has order `p - 1` modulo `p` -/
def lucasOk (p a : ℕ) (fs : List (ℕ × ℕ)) : Bool :=
  if h : 1 < p then
    haveI : NeZero p := ⟨by omega⟩
    (fs.map fun e => e.1 ^ e.2).prod == p - 1 && ((ofNat p a) ^ (p - 1)).val == 1 &&
      fs.all fun e => ((ofNat p a) ^ ((p - 1) / e.1)).val != 1
  else false

/-- a Pratt certificate over the known primes `small`, most dependent line first: each line `(p, a, fs)`
passes the Lucas test, and every prime in `fs` is the head of a later line or in `small` -/
def prattOk (small : List ℕ) : List (ℕ × ℕ × List (ℕ × ℕ)) → Bool
  | [] => true
  | (p, a, fs) :: cs =>
    lucasOk p a fs && (fs.all fun e => cs.any (·.1 == e.1) || small.contains e.1) && prattOk small cs

theorem prattOk_sound (small : List ℕ) (hs : ∀ q ∈ small, q.Prime) (cs : List (ℕ × ℕ × List (ℕ × ℕ)))
    (h : prattOk small cs = true) : ∀ p ∈ cs.map (·.1), p.Prime := by
  induction cs with
  | nil => simp
  | cons c cs ih =>
    obtain ⟨p, a, fs⟩ := c
    simp only [prattOk, Bool.and_eq_true, List.all_eq_true, Bool.or_eq_true, List.any_eq_true, beq_iff_eq,
      List.contains_iff_mem] at h
    obtain ⟨⟨hl, hfs⟩, hcs⟩ := h
    have ih := ih hcs
    simp only [List.map_cons, List.mem_cons, forall_eq_or_imp]
    refine ⟨?_, ih⟩
    have hprime : ∀ e ∈ fs, e.1.Prime := fun e he => by
      rcases hfs e he with ⟨c, hc, hce⟩ | hq
      · exact hce ▸ ih c.1 (List.mem_map_of_mem hc)
      · exact hs _ hq
    unfold lucasOk at hl
    split at hl
    · rename_i hp
      simp only [Bool.and_eq_true, beq_iff_eq, List.all_eq_true, bne_iff_ne, ne_eq] at hl
      exact @lucas_cert p a ⟨by omega⟩ hp fs hprime hl.1.1 hl.1.2 hl.2
    · cases hl

def certs : List (ℕ × ℕ × List (ℕ × ℕ)) := [
  (P, 7, [(2, 32), (3, 1), (11, 1), (19, 1), (10177, 1), (125527, 1), (859267, 1), (906349, 2), (2508409, 1),
    (2529403, 1), (52437899, 1), (254760293, 2)]),
  (52437899, 2, [(2, 1), (43, 1), (609743, 1)]),
  (254760293, 2, [(2, 2), (63690073, 1)]),
  (63690073, 7, [(2, 3), (3, 1), (2653753, 1)]),
  (R, 7, [(2, 5), (3, 1), (5, 2), (48407612962807291, 1), (2038476065687664805409, 1),
    (55352597255927763854484663053009063, 1)]),
  (48407612962807291, 2, [(2, 1), (3, 1), (5, 1), (311, 1), (5188382954213, 1)]),
  (5188382954213, 2, [(2, 2), (53, 1), (28771, 1), (850631, 1)]),
  (2038476065687664805409, 3, [(2, 5), (31, 1), (37, 1), (55538253751298627, 1)]),
  (55538253751298627, 5, [(2, 1), (7, 1), (11, 1), (19, 1), (175543, 1), (108127057, 1)]),
  (108127057, 5, [(2, 4), (3, 1), (2252647, 1)]),
  (55352597255927763854484663053009063, 5, [(2, 1), (9127, 1), (45317215763, 1), (66913960865519628631, 1)]),
  (45317215763, 2, [(2, 1), (7, 2), (13, 1), (2861, 1), (12433, 1)]),
  (66913960865519628631, 15, [(2, 1), (3, 2), (5, 1), (7, 1), (11, 1), (17, 1), (21762199, 1), (26099477, 1)]),
  (21762199, 3, [(2, 1), (3, 2), (263, 1), (4597, 1)]),
  (26099477, 2, [(2, 2), (13, 1), (47, 1), (59, 1), (181, 1)])]

/-- the primes below `2^22` that the certificates end in -/
def small : List ℕ := [2, 3, 5, 7, 11, 13, 17, 19, 31, 37, 43, 47, 53, 59, 181, 263, 311, 2861, 4597, 9127, 10177,
  12433, 28771, 125527, 175543, 609743, 850631, 859267, 906349, 2252647, 2508409, 2529403, 2653753]

theorem small_prime : ∀ q ∈ small, q.Prime := by
  simp only [small, List.forall_mem_cons]
  norm_num1
  simp

theorem certs_prime : ∀ p ∈ certs.map (·.1), p.Prime :=
  prattOk_sound small small_prime certs (by decide +kernel)

theorem P_prime : Nat.Prime GoIpa.P := certs_prime P (by decide)

theorem R_prime : Nat.Prime GoIpa.R := certs_prime R (by decide)

end GoIpa.Primes
