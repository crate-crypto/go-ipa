/-
  The table-driven square root of the base field (`bandersnatch/fp/sqrt.go`) is correct:
  `invSqrtEqDyadic` computes the discrete logarithm of a `2^32`-th root of unity eight bits at a
  time and returns its inverse square root, or reports an odd logarithm; hence `SqrtPrecomp`
  returns `nil` exactly for non-residues and otherwise a square root.
-/
import Mathlib.RingTheory.RootsOfUnity.PrimitiveRoots
import Mathlib.Tactic.Ring
import Mathlib.Tactic.LinearCombination
import GoIpa.Props.C17
import GoIpa.Lemmas.ZpEuler
import GoIpa.Lemmas.Primes
namespace GoIpa.SqrtPre
open GoIpa GoIpa.Zp

instance : Fact (Nat.Prime P) := ⟨Primes.P_prime⟩
instance : Fact (2 < P) := ⟨by decide⟩

/-- the generator of the 2-Sylow subgroup, in `ZMod p` -/
noncomputable def G : ZMod P := Zp.toZ dyadicRoot

theorem G_pow_31 : G ^ (2 ^ 31) = -1 := by
  unfold G; rw [← toZ_pow]; exact (toZ_eq_neg_one_iff _).mpr C17.dyadicRoot_order.1

theorem G_pow_32 : G ^ (2 ^ 32) = 1 := by
  unfold G; rw [← toZ_pow]; exact (toZ_eq_one_iff _).mpr C17.dyadicRoot_order.2

theorem G_order : orderOf G = 2 ^ 32 :=
  orderOf_eq_prime_pow (by rw [G_pow_31]; exact ZMod.neg_one_ne_one) G_pow_32

theorem G_primitive : IsPrimitiveRoot G (2 ^ 32) := by
  rw [← G_order]; exact IsPrimitiveRoot.orderOf _

theorem G_pow_congr (a b : ℕ) (h : a % 2 ^ 32 = b % 2 ^ 32) : G ^ a = G ^ b := by
  rw [← pow_mod_orderOf G a, ← pow_mod_orderOf G b, G_order, h]

theorem sqTimes_spec (n : ℕ) (x : Fp) : Zp.toZ (sqTimes n x) = Zp.toZ x ^ (2 ^ n) := by
  induction n generalizing x with
  | zero => simp [sqTimes]
  | succ n ih => rw [sqTimes, ih, toZ_mul, pow_succ, pow_mul', pow_two]

theorem block_spec (i j : ℕ) : Zp.toZ (precompBlock i j) = G ^ (2 ^ (8 * i) * j) := by
  unfold precompBlock dyadicRoots G
  rw [toZ_pow, toZ_pow, ← pow_mul]

def blocksExp (n off : ℕ) : ℕ → ℕ → ℕ
  | 0, _ => 0
  | cnt + 1, j => 2 ^ (8 * (j + off)) * ((n >>> (8 * j)) % 256) + blocksExp n off cnt (j + 1)

theorem mulBlocks_spec (n off cnt j : ℕ) (acc : Fp) :
    Zp.toZ (mulBlocks n off cnt j acc) = Zp.toZ acc * G ^ blocksExp n off cnt j := by
  induction cnt generalizing j acc with
  | zero => simp [mulBlocks, blocksExp]
  | succ cnt ih =>
    rw [mulBlocks, ih, toZ_mul, block_spec, blocksExp, pow_add]; ring

/-- **The lookup inverts `i ↦ g₈^i`** on the subgroup of order `2^8`, returning `−i mod 256` -/
theorem lookup_spec (i : ℕ) (hi : i < 256) : negDlogSmall (g8 ^ i) = (256 - i) % 256 := by
  rw [negDlogSmall, (C17.find?_key_iff dlogLUT C17.lut_keys_distinct _ _).2 
    ⟨List.mem_map.mpr ⟨i, List.mem_range.mpr hi, rfl⟩, rfl⟩]
  rfl

theorem toZ_g8_pow (i : ℕ) : Zp.toZ (g8 ^ i) = G ^ (2 ^ 24 * i) := by
  rw [toZ_pow]; unfold g8 dyadicRoots G; rw [toZ_pow, ← pow_mul]

/-- the table reads `d mod 256` off any `x` with `x·g₈^d = 1` -/
theorem lookup_of_mul (x : Fp) (d : ℕ) (h : Zp.toZ x * G ^ (2 ^ 24 * d) = 1) : negDlogSmall x = d % 256 := by
  obtain ⟨q, hq⟩ : 256 ∣ (256 - d % 256) % 256 + d := Nat.dvd_of_mod_eq_zero (by omega)
  have hi : Zp.toZ (g8 ^ ((256 - d % 256) % 256)) * G ^ (2 ^ 24 * d) = 1 := by
    rw [toZ_g8_pow, ← pow_add, ← Nat.mul_add, hq, ← Nat.mul_assoc, pow_mul]
    exact (congrArg (· ^ q) G_pow_32).trans (one_pow q)
  rw [toZ_injective ((eq_inv_of_mul_eq_one_left h).trans (eq_inv_of_mul_eq_one_left hi).symm),
    lookup_spec _ (Nat.mod_lt _ (by decide))]
  omega

attribute [irreducible] G

theorem sq8_spec (x : Fp) : Zp.toZ (sq8 x) = Zp.toZ x ^ 256 := sqTimes_spec 8 x

theorem sq8_iter (j : ℕ) (z : Fp) : Zp.toZ (sq8^[j] z) = Zp.toZ z ^ 256 ^ j := by
  induction j with
  | zero => simp
  | succ j ih => rw [Function.iterate_succ_apply', sq8_spec, ih, ← pow_mul, ← pow_succ]

/-- `mulBlocks` multiplies by `G` to the low `cnt` base-256 digits of `n`, moved up `off` digits -/
theorem blocksExp_eq (n off cnt j : ℕ) :
    blocksExp n off cnt j = 256 ^ (j + off) * ((n >>> (8 * j)) % 256 ^ cnt) := by
  induction cnt generalizing j with
  | zero => simp [blocksExp, Nat.mod_one]
  | succ cnt ih =>
    rw [blocksExp, ih, Nat.mul_succ, Nat.shiftRight_add, Nat.shiftRight_eq_div_pow _ 8, pow_succ' 256 cnt,
      Nat.mod_mul, pow_mul]
    ring

/-- **One block of the discrete logarithm.** If `z·G^N = 1`, the look-up on `z^(256^j)` times the blocks
of the `k` digits of `N` already known gives digit `k` of `N`: with `j + k = 3` the product is
`(z·G^N)^(256^j) · g₈^(-digits from k on)`. -/
theorem digit (z : Fp) (N j k : ℕ) (hjk : j + k = 3) (h : Zp.toZ z * G ^ N = 1) :
    negDlogSmall (mulBlocks (N % 256 ^ k) j k 0 (sq8^[j] z)) = N / 256 ^ k % 256 := by
  apply lookup_of_mul
  have h24 : 2 ^ 24 = 256 ^ j * 256 ^ k := by rw [← pow_add, hjk]; rfl
  rw [mulBlocks_spec, blocksExp_eq, sq8_iter, Nat.shiftRight_zero, Nat.mod_mod, Nat.zero_add, h24, Nat.mul_assoc,
    mul_assoc, ← pow_add, ← Nat.mul_add, Nat.mod_add_div, pow_mul', ← mul_pow, h, one_pow]

theorem or_digit (N k : ℕ) : N % 256 ^ k ||| (N / 256 ^ k % 256) <<< (8 * k) = N % 256 ^ (k + 1) := by
  have h : (256 : ℕ) ^ k = 2 ^ (8 * k) := by rw [pow_mul]; rfl
  rw [Nat.or_comm, ← Nat.shiftLeft_add_eq_or_of_lt (h ▸ Nat.mod_lt _ (by positivity)), Nat.shiftLeft_eq, ← h,
    pow_succ, Nat.mod_mul, Nat.mul_comm, Nat.add_comm]

theorem step (z : Fp) (N j k : ℕ) (hjk : j + k = 3) (h : Zp.toZ z * G ^ N = 1) :
    N % 256 ^ k ||| negDlogSmall (mulBlocks (N % 256 ^ k) j k 0 (sq8^[j] z)) <<< (8 * k) = N % 256 ^ (k + 1) := by
  rw [digit z N j k hjk h, or_digit]

/-- **`invSqrtEqDyadic` as a function of a negative logarithm.** For any `N` with `z·G^N = 1` the four
blocks assemble `N mod 2^32` digit by digit; an odd `N` is reported, otherwise the result is
`G^((N mod 2^32)/2)` read from the blocks. -/
theorem invSqrt_eq (z : Fp) (N : ℕ) (h : Zp.toZ z * G ^ N = 1) :
    invSqrtEqDyadic z = if N % 2 = 1 then none else some (mulBlocks (N % 2 ^ 32 / 2) 0 4 0 1) := by
  have s0 : negDlogSmall (sq8 (sq8 (sq8 z))) = N % 256 :=
    (digit z N 3 0 rfl h).trans (by rw [pow_zero, Nat.div_one])
  have s1 : N % 256 ||| negDlogSmall (mulBlocks (N % 256) 2 1 0 (sq8 (sq8 z))) <<< 8 = N % 65536 :=
    step z N 2 1 rfl h
  have s2 : N % 65536 ||| negDlogSmall (mulBlocks (N % 65536) 1 2 0 (sq8 z)) <<< 16 = N % 16777216 :=
    step z N 1 2 rfl h
  have s3 : N % 16777216 ||| negDlogSmall (mulBlocks (N % 16777216) 0 3 0 z) <<< 24 = N % 2 ^ 32 :=
    step z N 0 3 rfl h
  unfold invSqrtEqDyadic
  simp only []
  rw [s0, s1, s2, s3, Nat.mod_mod_of_dvd _ (by decide), Nat.shiftRight_one]

/-- **`invSqrtEqDyadic`.** For `z = G^e`: an odd `e` is reported; for an even `e` the result `r`
satisfies `z·r² = 1`. -/
theorem invSqrt_spec (z : Fp) (e : ℕ) (he : e < 4294967296) (hz : Zp.toZ z = G ^ e) :
    (e % 2 = 1 → invSqrtEqDyadic z = none) ∧
    (e % 2 = 0 → ∃ r, invSqrtEqDyadic z = some r ∧ Zp.toZ z * Zp.toZ r * Zp.toZ r = 1) := by
  have h : Zp.toZ z * G ^ (4294967296 - e) = 1 := by
    rw [hz, ← pow_add, Nat.add_sub_cancel' he.le]; exact G_pow_32
  rw [invSqrt_eq z _ h]
  refine ⟨fun ho => if_pos (by omega), fun hev => ⟨_, if_neg (by omega), ?_⟩⟩
  rw [mul_assoc, mulBlocks_spec, blocksExp_eq, toZ_one, one_mul, ← pow_add, hz, ← pow_add]
  exact G_pow_congr _ 0 (by simp; omega)

theorem Q_facts : 2 * ((Qodd - 1) / 2) + 1 = Qodd ∧ Qodd * 2 ^ 32 = P - 1 ∧ Qodd * 2 ^ 31 = P / 2 := by
  decide

/-- **`SqrtPrecomp`.** For every base-field element `v`: a returned `y` satisfies `y² = v`, and the
routine returns `nil` exactly when `v` is not a square (`SqrtPrecomp(0) = 0`). -/
theorem sqrtPrecomp_spec (v : Fp) :
    (∀ y, Fp.sqrtPrecomp v = some y → y * y = v) ∧ (Fp.sqrtPrecomp v = none ↔ ¬ IsSquare (Zp.toZ v)) := by
  by_cases hv0 : v = 0
  · subst hv0
    rw [C17.sqrtPrecomp_zero, toZ_zero]
    exact ⟨fun y hy => by cases hy; exact toZ_injective (by simp), nofun, fun h => absurd IsSquare.zero h⟩
  have hvz : Zp.toZ v ≠ 0 := mt toZ_eq_zero.1 hv0
  obtain ⟨hq1, hq32, hq31⟩ := Q_facts
  unfold Fp.sqrtPrecomp
  rw [if_neg (mt (toZ_eq_zero_iff v).2 hvz)]
  simp only
  set acc := v ^ ((Qodd - 1) / 2) with hacc
  -- the root of unity `acc²·v = v^Q` is `G^e`; by Euler's criterion `v` is a square iff `e` is even
  have hroot : Zp.toZ (acc * acc * v) = Zp.toZ v ^ Qodd := by
    rw [toZ_mul, toZ_mul, hacc, toZ_pow]
    conv_rhs => rw [← hq1]
    rw [pow_succ, pow_mul]; ring
  have hroot32 : Zp.toZ (acc * acc * v) ^ 2 ^ 32 = 1 := by
    rw [hroot, ← pow_mul, hq32]; exact ZMod.pow_card_sub_one_eq_one hvz
  obtain ⟨e, he, hge⟩ := G_primitive.eq_pow_of_pow_eq_one hroot32
  obtain ⟨hoddcase, hevencase⟩ := invSqrt_spec (acc * acc * v) e he hge.symm
  have hpow31 : Zp.toZ v ^ (P / 2) = (-1) ^ e := by
    rw [← hq31, pow_mul, ← hroot, ← hge, ← pow_mul, Nat.mul_comm, pow_mul, G_pow_31]
  rw [ZMod.euler_criterion P hvz, hpow31]
  rcases Nat.mod_two_eq_zero_or_one e with hev | hod
  · obtain ⟨r, hr, hrel⟩ := hevencase hev
    rw [hr, (Nat.even_iff.2 hev).neg_one_pow]
    refine ⟨fun y hy => ?_, nofun, fun h => absurd rfl h⟩
    cases hy
    apply toZ_injective
    simp only [toZ_mul] at hrel ⊢
    linear_combination (Zp.toZ v) * hrel
  · rw [hoddcase hod, (Nat.odd_iff.2 hod).neg_one_pow]
    exact ⟨nofun, fun _ => ZMod.neg_one_ne_one, fun _ => rfl⟩

end GoIpa.SqrtPre
