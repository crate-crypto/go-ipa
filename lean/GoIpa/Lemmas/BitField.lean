/-
  Bits `[a, a+b)` of a natural number, written `N / 2 ^ a % 2 ^ b`: the one notion behind the
  limb / shift / mask expressions of the scalar recoders and the window selectors.
-/
namespace GoIpa.Bits

theorem pow_split {a b : Nat} (h : a ≤ b) : 2 ^ b = 2 ^ a * 2 ^ (b - a) := by
  rw [← Nat.pow_add, Nat.add_sub_cancel' h]

theorem field_lt (N a b : Nat) : N / 2 ^ a % 2 ^ b < 2 ^ b := Nat.mod_lt _ (Nat.two_pow_pos b)

theorem field_field (N a b s c : Nat) (h : s + c ≤ b) :
    (N / 2 ^ a % 2 ^ b) / 2 ^ s % 2 ^ c = N / 2 ^ (a + s) % 2 ^ c := by
  rw [pow_split (Nat.le_of_add_right_le h), Nat.mod_mul_right_div_self,
    Nat.mod_mod_of_dvd _ (Nat.pow_dvd_pow 2 (Nat.le_sub_of_add_le' h)), Nat.div_div_eq_div_mul, ← Nat.pow_add]

theorem field_split (N a b c : Nat) :
    N / 2 ^ a % 2 ^ (b + c) = N / 2 ^ a % 2 ^ b + 2 ^ b * (N / 2 ^ (a + b) % 2 ^ c) := by
  rw [Nat.pow_add 2 b, Nat.mod_mul, Nat.div_div_eq_div_mul, ← Nat.pow_add]

theorem field_top (N a b : Nat) (h : N < 2 ^ (a + b)) : N / 2 ^ a % 2 ^ b = N / 2 ^ a :=
  Nat.mod_eq_of_lt (Nat.div_lt_of_lt_mul (by rwa [← Nat.pow_add]))

theorem field_lt_of_lt (N a b B : Nat) (h : N < 2 ^ B) : N / 2 ^ a % 2 ^ b < 2 ^ (B - a) :=
  Nat.lt_of_le_of_lt (Nat.mod_le _ _) (Nat.div_lt_of_lt_mul (Nat.lt_of_lt_of_le h (by
    rw [← Nat.pow_add]; exact Nat.pow_le_pow_right (by omega) (by omega))))

theorem field_add_high (A x k a b : Nat) (h : a + b ≤ k) :
    (A + x * 2 ^ k) / 2 ^ a % 2 ^ b = A / 2 ^ a % 2 ^ b := by
  have e : x * 2 ^ k = 2 ^ a * (2 ^ b * (x * 2 ^ (k - (a + b)))) := by
    rw [pow_split h, Nat.pow_add]; ac_rfl
  rw [e, Nat.add_mul_div_left _ _ (Nat.two_pow_pos a), Nat.add_mul_mod_self_left]

theorem field_add_self (A x k b : Nat) (hA : A < 2 ^ k) : (A + x * 2 ^ k) / 2 ^ k % 2 ^ b = x % 2 ^ b := by
  rw [Nat.mul_comm, Nat.add_mul_div_left _ _ (Nat.two_pow_pos k), Nat.div_eq_of_lt hA, Nat.zero_add]

/-! ### a field that may straddle two 64-bit words

`lo`, `hi` are words `i` and `i+1` of `N`; the field starts at bit `sh` of `lo`. -/

theorem read_one (N i sh c : Nat) (h : sh + c ≤ 64) :
    (N / 2 ^ (64 * i) % 2 ^ 64) / 2 ^ sh % 2 ^ c = N / 2 ^ (64 * i + sh) % 2 ^ c :=
  field_field N _ 64 sh c h

theorem read_top (N i sh c : Nat) (h : N < 2 ^ (64 * i + 64)) :
    (N / 2 ^ (64 * i) % 2 ^ 64) / 2 ^ sh % 2 ^ c = N / 2 ^ (64 * i + sh) % 2 ^ c := by
  rw [field_top N _ 64 h, Nat.div_div_eq_div_mul, ← Nat.pow_add]

theorem read_two (N i sh c : Nat) (hsh : sh ≤ 64) (hc : c ≤ 64) (h : 64 ≤ sh + c) :
    (N / 2 ^ (64 * i) % 2 ^ 64) / 2 ^ sh % 2 ^ c
        + (N / 2 ^ (64 * (i + 1)) % 2 ^ 64 % 2 ^ (sh + c - 64)) * 2 ^ (64 - sh)
      = N / 2 ^ (64 * i + sh) % 2 ^ c := by
  have e1 : (N / 2 ^ (64 * i) % 2 ^ 64) / 2 ^ sh % 2 ^ c = N / 2 ^ (64 * i + sh) % 2 ^ (64 - sh) := by
    rw [← read_one N i sh (64 - sh) (by omega)]
    have hlt : (N / 2 ^ (64 * i) % 2 ^ 64) / 2 ^ sh < 2 ^ (64 - sh) :=
      Nat.div_lt_of_lt_mul (by rw [← pow_split hsh]; exact field_lt N _ 64)
    rw [Nat.mod_eq_of_lt hlt, Nat.mod_eq_of_lt (Nat.lt_of_lt_of_le hlt (Nat.pow_le_pow_right (by omega) (by omega)))]
  have e2 : N / 2 ^ (64 * (i + 1)) % 2 ^ 64 % 2 ^ (sh + c - 64) = N / 2 ^ (64 * i + sh + (64 - sh)) % 2 ^ (sh + c - 64) := by
    rw [Nat.mod_mod_of_dvd _ (Nat.pow_dvd_pow 2 (by omega))]
    congr 3; omega
  rw [e1, e2, Nat.mul_comm _ (2 ^ (64 - sh)), ← field_split, show 64 - sh + (sh + c - 64) = c by omega]

theorem mask_read (x c sh : Nat) (hx : x < 2 ^ 64) :
    (x &&& ((((1 <<< c) - 1) <<< sh) &&& (2 ^ 64 - 1))) >>> sh = x / 2 ^ sh % 2 ^ c := by
  rw [Nat.and_comm (_ <<< sh), ← Nat.and_assoc, Nat.and_two_pow_sub_one_of_lt_two_pow hx, Nat.one_shiftLeft,
    Nat.shiftRight_and_distrib, Nat.shiftLeft_shiftRight, Nat.and_two_pow_sub_one_eq_mod, Nat.shiftRight_eq_div_pow]

theorem store_low (o bits sh : Nat) (ho : o < 2 ^ sh) (hsh : sh ≤ 64) :
    (o ||| (bits <<< sh)) &&& (2 ^ 64 - 1) = o + 2 ^ sh * (bits % 2 ^ (64 - sh)) := by
  rw [Nat.and_two_pow_sub_one_eq_mod, Nat.or_comm, ← Nat.shiftLeft_add_eq_or_of_lt ho, Nat.shiftLeft_eq,
    pow_split hsh, Nat.mod_mul, Nat.mul_comm bits, Nat.mul_add_mod, Nat.mod_eq_of_lt ho,
    Nat.mul_add_div (Nat.two_pow_pos sh), Nat.div_eq_of_lt ho, Nat.add_zero]

theorem or_mask_word (o x : Nat) (ho : o < 2 ^ 64) : (o ||| x) &&& (2 ^ 64 - 1) = o ||| x % 2 ^ 64 := by
  rw [Nat.and_two_pow_sub_one_eq_mod, Nat.or_mod_two_pow, Nat.mod_eq_of_lt ho]

end GoIpa.Bits
