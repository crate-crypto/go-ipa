/-
  The bucket method at group level: for any abelian group, any window width, any bucket count and
  any per-scalar digit source, `msmProcessChunk` returns `Σ digitᵢ • Pᵢ` and `msmCk` returns
  `Σᵢ (Σ_k 2^(ck)·digit_{i,k}) • Pᵢ`, provided every stored digit addresses an existing bucket.
-/
import GoIpa.Props.C09
namespace GoIpa.Pip
open GoIpa GoIpa.C09

variable {G : Type} [AddCommGroup G]

theorem weighted_length_zero (n : Nat) : weighted (List.replicate n (0 : G)) = 0 := by
  induction n with
  | zero => rfl
  | succ n ih => simp [List.replicate_succ, weighted, ih]

theorem sum_weighted_set (b : List G) (j : Nat) (hj : j < b.length) (P : G) :
    (b.set j (b.getD j 0 + P)).sum = b.sum + P ∧
      weighted (b.set j (b.getD j 0 + P)) = weighted b + (j + 1) • P := by
  induction b generalizing j with
  | nil => simp at hj
  | cons x b ih =>
    cases j with
    | zero =>
      simp only [List.set_cons_zero, weighted, List.sum_cons, List.getD_cons_zero, Nat.zero_add, one_smul]
      constructor <;> abel
    | succ j =>
      obtain ⟨hs, hw⟩ := ih j (by simpa using hj)
      simp only [List.set_cons_succ, weighted, List.sum_cons, List.getD_cons_succ, hs, hw, add_smul, one_smul]
      constructor <;> abel

theorem weighted_set (b : List G) (j : Nat) (hj : j < b.length) (P : G) :
    weighted (b.set j (b.getD j 0 + P)) = weighted b + (j + 1) • P :=
  (sum_weighted_set b j hj P).2

/-- the bucket a stored digit addresses exists -/
def InRange (c nb bits : Nat) : Prop :=
  bits ≠ 0 → (if bits &&& (1 <<< (c - 1)) = 0 then bits - 1 < nb else bits &&& ((1 <<< (c - 1)) - 1) < nb)

/-- the bucket-filling loop of one chunk -/
def fill (c k : Nat) (b : List G) (e : G × List Nat) : List G :=
  let bits := selectBits c e.2 k
  if bits = 0 then b
  else if bits &&& (1 <<< (c - 1)) = 0 then b.set (bits - 1) (e.1 + b.getD (bits - 1) 0)
  else
    let i := bits &&& ((1 <<< (c - 1)) - 1)
    b.set i (b.getD i 0 + -e.1)

theorem fill_spec (c k : Nat) (b : List G) (e : G × List Nat) (hr : InRange c b.length (selectBits c e.2 k)) :
    (fill c k b e).length = b.length ∧
    weighted (fill c k b e) = weighted b + decodeDigit c (selectBits c e.2 k) • e.1 := by
  unfold fill decodeDigit
  simp only
  by_cases h0 : selectBits c e.2 k = 0
  · simp [h0]
  · have hr' := hr h0
    by_cases hpos : selectBits c e.2 k &&& (1 <<< (c - 1)) = 0
    · rw [if_neg h0, if_pos hpos, if_neg h0, if_pos hpos]
      rw [if_pos hpos] at hr'
      refine ⟨by simp, ?_⟩
      rw [add_comm e.1, weighted_set b _ hr']
      have : selectBits c e.2 k - 1 + 1 = selectBits c e.2 k := by omega
      rw [this, natCast_zsmul]
    · rw [if_neg h0, if_neg hpos, if_neg h0, if_neg hpos]
      rw [if_neg hpos] at hr'
      refine ⟨by simp, ?_⟩
      rw [weighted_set b _ hr']
      congr 1
      rw [smul_neg]
      generalize selectBits c e.2 k &&& ((1 <<< (c - 1)) - 1) = n
      rw [show (-(n : Int) - 1) = -((n + 1 : Nat) : Int) by push_cast; ring, neg_smul, natCast_zsmul]

theorem fill_fold (c k : Nat) (l : List (G × List Nat)) (b : List G)
    (hr : ∀ e ∈ l, InRange c b.length (selectBits c e.2 k)) :
    (l.foldl (fill c k) b).length = b.length ∧
    weighted (l.foldl (fill c k) b) = weighted b + (l.map fun e => decodeDigit c (selectBits c e.2 k) • e.1).sum := by
  induction l generalizing b with
  | nil => simp
  | cons e l ih =>
    obtain ⟨hl, hw⟩ := fill_spec c k b e (hr e List.mem_cons_self)
    obtain ⟨hl2, hw2⟩ := ih (fill c k b e) (fun e' he' => by rw [hl]; exact hr e' (List.mem_cons_of_mem _ he'))
    simp only [List.foldl_cons, List.map_cons, List.sum_cons]
    refine ⟨by rw [hl2, hl], ?_⟩
    rw [hw2, hw]; abel

/-- **One chunk.** `msmProcessChunk` returns `Σ digitᵢ • Pᵢ` over the points it is given. -/
theorem processChunk_spec (c nb k : Nat) (points : List G) (parts : List (List Nat))
    (hr : ∀ e ∈ List.zip points parts, InRange c nb (selectBits c e.2 k)) :
    processChunk c nb k points parts
      = ((List.zip points parts).map fun e => decodeDigit c (selectBits c e.2 k) • e.1).sum := by
  unfold processChunk
  simp only
  have hfold := fill_fold c k (List.zip points parts) (List.replicate nb (0 : G)) (by simpa using hr)
  have hb := bucket_reduce ((List.zip points parts).foldl (fill c k) (List.replicate nb (0 : G)))
  unfold fill at hb hfold
  simp only at hb hfold
  rw [hb, hfold.2, weighted_length_zero, zero_add]

/-- the digit string a stored scalar decodes to -/
def digitSum (c n : Nat) (q : List Nat) : Int :=
  ((List.range n).map fun k => ((2 ^ (c * k) : Nat) : Int) * decodeDigit c (selectBits c q k)).sum

/-- bucket count of chunk `k` (the top chunk of a non-dividing width is narrower) -/
def nbOf (c k : Nat) : Nat :=
  if 256 % c ≠ 0 ∧ k = nbChunks c - 1 then 1 <<< ((256 - c * (256 / c)) - 1) else 1 <<< (c - 1)

theorem zipIdx_map_range {α β : Type} (n : Nat) (f : Nat → α) (g : α × Nat → β) :
    (List.zipIdx ((List.range n).map f)).map g = (List.range n).map fun k => g (f k, k) := by
  apply List.ext_getElem (by simp)
  intro i h1 h2
  simp

theorem zip_take_drop {α β : Type} (l : List α) (m : List β) (h : Nat) :
    List.zip (l.take h) (m.take h) ++ List.zip (l.drop h) (m.drop h) = List.zip l m := by
  rw [List.zip_eq_zipWith, List.zip_eq_zipWith, List.zip_eq_zipWith, ← List.take_zipWith, ← List.drop_zipWith,
    List.take_append_drop]

theorem sum_smul_list (l : List Int) (P : G) : (l.map fun x => x • P).sum = l.sum • P := by
  induction l with
  | nil => simp
  | cons x l ih => simp only [List.map_cons, List.sum_cons, ih, add_smul]

theorem sum_exchange (c n : Nat) (l : List (G × List Nat)) :
    ((List.range n).map fun k => (2 ^ (c * k)) • (l.map fun e => decodeDigit c (selectBits c e.2 k) • e.1).sum).sum
      = (l.map fun e => digitSum c n e.2 • e.1).sum := by
  induction l with
  | nil => simp
  | cons e l ih =>
    simp only [List.map_cons, List.sum_cons, smul_add]
    rw [List.sum_map_add, ih]
    congr 1
    unfold digitSum
    rw [← sum_smul_list, List.map_map]
    apply congrArg
    apply List.map_congr_left
    intro k _
    simp only [Function.comp]
    rw [mul_smul, natCast_zsmul]

/-- **`msmCk`.** With `x ↦ x + x` for the doubling: the chunk totals, Horner-combined, are
`Σᵢ (Σ_k 2^(ck)·digit_{i,k}) • Pᵢ`, with or without the split of the first chunk. -/
theorem msmInner_spec (c : Nat) (points : List G) (parts : List (List Nat)) (split : Bool)
    (hn : 1 ≤ nbChunks c)
    (hr : ∀ k, k < nbChunks c → ∀ e ∈ List.zip points parts, InRange c (nbOf c k) (selectBits c e.2 k)) :
    msmInner (fun x => x + x) c points parts split
      = ((List.zip points parts).map fun e => digitSum c (nbChunks c) e.2 • e.1).sum := by
  unfold msmInner
  simp only
  -- chunk `k` over any part of the points
  have hchunk : ∀ k, k < nbChunks c → ∀ (ps : List G) (qs : List (List Nat)),
      (∀ e ∈ List.zip ps qs, e ∈ List.zip points parts) →
      processChunk c (if 256 % c ≠ 0 ∧ k = nbChunks c - 1 then 1 <<< (256 - c * (256 / c) - 1) else 1 <<< (c - 1)) k ps qs
        = ((List.zip ps qs).map fun e => decodeDigit c (selectBits c e.2 k) • e.1).sum :=
    fun k hk ps qs hsub => processChunk_spec _ _ _ _ _ fun e he => hr k hk e (hsub e he)
  obtain ⟨m, hm⟩ : ∃ m, nbChunks c = m + 1 := ⟨_, (Nat.sub_add_cancel hn).symm⟩
  generalize hf : (if split = true then _ else _) = first
  generalize hrest : List.map _ (List.range (nbChunks c - 1)) = rest
  have h0 : first = ((List.zip points parts).map fun e => decodeDigit c (selectBits c e.2 0) • e.1).sum := by
    have hz := zip_take_drop points parts (points.length / 2)
    rw [← hf]
    split
    · rw [hchunk 0 hn _ _ fun e he => hz ▸ List.mem_append_left _ he,
        hchunk 0 hn _ _ fun e he => hz ▸ List.mem_append_right _ he, ← List.sum_append, ← List.map_append, hz]
    · exact hchunk 0 hn points parts fun e he => he
  have hr' : rest = (List.range m).map fun k =>
      ((List.zip points parts).map fun e => decodeDigit c (selectBits c e.2 (k + 1)) • e.1).sum := by
    rw [← hrest, hm, Nat.add_sub_cancel]
    refine List.map_congr_left fun k hk => ?_
    have := hchunk (k + 1) (by have := List.mem_range.mp hk; omega) points parts fun e he => he
    rwa [hm, Nat.add_sub_cancel] at this
  have hl : first :: rest = (List.range (m + 1)).map fun k =>
      ((List.zip points parts).map fun e => decodeDigit c (selectBits c e.2 k) • e.1).sum := by
    rw [h0, hr', List.range_succ_eq_map, List.map_cons, List.map_map]; rfl
  rw [hl, reduceChunks_spec, zipIdx_map_range, hm]
  exact sum_exchange c (m + 1) (List.zip points parts)

end GoIpa.Pip
