/-
  Multiproof completeness, assembled: grouping, compaction, quotient evaluation, linearity of
  the commitment, IPA completeness and equality of the two transcripts.
-/
import GoIpa.Lemmas.MpAlgebra
import GoIpa.Props.C01
namespace GoIpa.Mp
open GoIpa GoIpa.Grouping

variable {F G : Type} [Field F] [DecidableEq F] [AddCommGroup G] [Module F G]
variable (enc : Enc F G)

/-- the statement as both sides absorb it: separator, then `C`, `z`, `y` of every opening -/
def absorbStmt (tr : Tr) (Cs : List G) (ys : List F) (zs : List Nat) : Tr :=
  (List.zip Cs (List.zip ys zs)).foldl (fun (tr : Tr) (e : G × F × Nat) =>
      ((tr.appendPoint enc e.1 Label.C).appendScalar enc ((e.2.2 : Nat) : F) Label.z).appendScalar enc e.2.1 Label.y)
    (tr.domainSep Label.multiproof)

/-- the claimed values of an honest statement -/
def honestYs (fs : List (List F)) (zs : List Nat) : List F := List.zipWith (fun f z => f.getD z 0) fs zs

/-- the prover absorbs exactly the statement with the honest values -/
theorem prover_absorb (tr0 : Tr) (Cs : List G) (fs : List (List F)) (zs : List Nat) :
    (List.zip Cs (List.zip fs zs)).foldl (fun (tr : Tr) (e : G × List F × Nat) =>
        let tr := tr.appendPoint enc e.1 Label.C
        let tr := tr.appendScalar enc ((e.2.2 : Nat) : F) Label.z
        tr.appendScalar enc (e.2.1.getD e.2.2 0) Label.y) tr0
      = (List.zip Cs (List.zip (honestYs fs zs) zs)).foldl (fun (tr : Tr) (e : G × F × Nat) =>
        ((tr.appendPoint enc e.1 Label.C).appendScalar enc ((e.2.2 : Nat) : F) Label.z).appendScalar enc e.2.1 Label.y) tr0 := by
  induction Cs generalizing tr0 fs zs with
  | nil => simp
  | cons c Cs ih =>
    cases fs with
    | nil => simp [honestYs]
    | cons f fs =>
      cases zs with
      | nil => simp [honestYs]
      | cons z zs =>
        simp only [honestYs, List.zipWith_cons_cons, List.zip_cons_cons, List.foldl_cons]
        exact ih _ fs zs

/-- everything the prover has computed when it starts the inner-product argument -/
structure ProverState (F G : Type) where
  r : F
  t : F
  g : List F
  h : List F
  D : G
  E : G
  tr : Tr

/-- the prover up to (and excluding) the inner-product argument -/
def proverState (cfg : IpaCfg F G) (tr : Tr) (Cs : List G) (fs : List (List F)) (zs : List Nat)
    (w : Nat) (order : List Nat) : ProverState F G :=
  let N := cfg.N
  let tr := absorbStmt enc tr Cs (honestYs fs zs) zs
  let rc := tr.challenge enc Label.r
  let pows := powersOf rc.1 Cs.length
  let groups := groupPolys N fs pows zs w order
  let g := sumVecs N ((present groups 0).map fun e => cfg.weights.divideOnDomain N e.1 e.2)
  let D := msm cfg.srs g
  let tc := (rc.2.appendPoint enc D Label.D).challenge enc Label.t
  let h := sumVecs N ((present groups 0).map fun e => e.2.map (· * (tc.1 - ((e.1 : Nat) : F))⁻¹))
  let E := msm cfg.srs h
  ⟨rc.1, tc.1, g, h, D, E, tc.2.appendPoint enc E Label.E⟩

theorem g_fold (cfg : IpaCfg F G) (groups : Groups F) :
    (List.zipIdx groups).foldl (fun (g : List F) (e : Option (List F) × Nat) =>
        (e.1.map fun f => addVec g (cfg.weights.divideOnDomain cfg.N e.2 f)).getD g) (List.replicate cfg.N 0)
      = sumVecs cfg.N ((present groups 0).map fun e => cfg.weights.divideOnDomain cfg.N e.1 e.2) :=
  fold_groups_eq groups 0 (fun z f => cfg.weights.divideOnDomain cfg.N z f) _

theorem h_fold (N : Nat) (groups : Groups F) (t : F) :
    (List.zip (groups.filterMap id) (batchInvert ((List.zipIdx groups).filterMap (fun (e : Option (List F) × Nat) =>
        e.1.map fun _ => t - ((e.2 : Nat) : F))))).foldl
        (fun (h : List F) (e : List F × F) => addVec h (e.1.map (· * e.2))) (List.replicate N 0)
      = sumVecs N ((present groups 0).map fun e => e.2.map (· * (t - ((e.1 : Nat) : F))⁻¹)) := by
  have := C01.h_fold_eq groups t (List.replicate N (0 : F))
  unfold C01.densOf at this
  rw [this]
  exact fold_groups_eq groups 0 (fun z f => f.map (· * (t - ((z : Nat) : F))⁻¹)) _

/-- `CreateMultiProof` is the prover state followed by the inner-product argument -/
theorem mpProve_eq (cfg : IpaCfg F G) (tr : Tr) (Cs : List G) (fs : List (List F)) (zs : List Nat)
    (w : Nat) (order : List Nat) :
    mpProve enc cfg tr Cs fs zs w order =
      (let s := proverState enc cfg tr Cs fs zs w order
       let p := ipaProve enc cfg s.tr (s.E - s.D) (List.zipWith (· - ·) s.h s.g) s.t
       (p.1.map (fun ip => (⟨ip, s.D⟩ : MultiProof F G)), p.2)) := by
  unfold mpProve proverState absorbStmt
  simp only [prover_absorb, g_fold, h_fold]

/-! ### what the grouped table contains -/

theorem present_facts (N : Nat) (fs : List (List F)) (pows : List F) (zs : List Nat)
    (hgood : Good N fs zs (List.range fs.length)) (w : Nat) (hw : 1 ≤ w) (order : List Nat)
    (hperm : order.Perm (List.range w)) (z : Nat) (f : List F)
    (hm : (z, f) ∈ present (groupPolys N fs pows zs w order) 0) :
    z < N ∧ f.length = N ∧ (∃ i, i < fs.length ∧ zs.getD i 0 = z) ∧
      ∀ j, f.getD j 0 = contrib fs pows zs (List.range fs.length) z j := by
  obtain ⟨wf, hd, hcoord⟩ := group_spec N fs pows zs hgood w hw order hperm
  have hm : (groupPolys N fs pows zs w order)[z]? = some (some f) := ((present_mem _ 0 z f).mp hm).2
  have hlt : z < (groupPolys N fs pows zs w order).length := (List.getElem?_eq_some_iff.mp hm).1
  have hget : (groupPolys N fs pows zs w order).getD z none = some f := by
    rw [List.getD_eq_getElem?_getD, hm]; rfl
  refine ⟨by rw [← wf.1]; exact hlt, wf.2 z f hget, ?_, ?_⟩
  · have := hd z
    unfold defined at this
    rw [hget] at this
    simp only [Option.isSome_some] at this
    obtain ⟨i, hi, hz⟩ := List.any_eq_true.mp this.symm
    exact ⟨i, List.mem_range.mp hi, by simpa using hz⟩
  · intro j
    have := hcoord z j
    unfold coord at this
    rw [hget] at this
    simpa using this

/-- the (t − z)⁻¹-weighted sum over the present groups, regrouped over the openings -/
theorem sum_present_regroup (N : Nat) (fs : List (List F)) (pows : List F) (zs : List Nat)
    (hgood : Good N fs zs (List.range fs.length)) (w : Nat) (hw : 1 ≤ w) (order : List Nat)
    (hperm : order.Perm (List.range w)) (ψ : Nat → F) (j : Nat → Nat) :
    ((present (groupPolys N fs pows zs w order) 0).map fun e => ψ e.1 * e.2.getD (j e.1) 0).sum =
      ((List.range fs.length).map fun i =>
        ψ (zs.getD i 0) * (pows.getD i 0 * (fs.getD i []).getD (j (zs.getD i 0)) 0)).sum := by
  obtain ⟨wf, hd, hcoord⟩ := group_spec N fs pows zs hgood w hw order hperm
  rw [sum_present _ 0 (fun z f => ψ z * f.getD (j z) 0) (by intro z; simp)]
  rw [wf.1]
  rw [← regroup N fs pows zs ψ j (List.range fs.length) (fun i hi => (hgood i hi).1)]
  apply congrArg
  apply List.map_congr_left
  intro z _
  simp only [Nat.add_zero]
  congr 1
  have := hcoord z (j z)
  unfold coord at this
  exact this

theorem map_mul_getD (l : List F) (c : F) (j : Nat) : (l.map (· * c)).getD j 0 = l.getD j 0 * c := by
  rw [List.getD_eq_getElem?_getD, List.getElem?_map, List.getD_eq_getElem?_getD]
  cases l[j]? <;> simp

theorem powersFrom_length (x cur : F) (n : Nat) : (powersFrom x cur n).length = n := by
  induction n generalizing cur with
  | zero => rfl
  | succ n ih => simp [powersFrom, ih]

theorem powersOf_length (x : F) (n : Nat) : (powersOf x n).length = n := powersFrom_length x 1 n

theorem list_sum_map_sub {α : Type} (l : List α) (a b : α → F) :
    (l.map fun e => a e - b e).sum = (l.map a).sum - (l.map b).sum := by
  induction l with
  | nil => simp
  | cons x xs ih => simp only [List.map_cons, List.sum_cons, ih]; ring

/-- the verifier's MSM scalars `rⁱ / (t − zᵢ)` -/
def mpScalars (pows : List F) (zs : List Nat) (t : F) : List F :=
  List.zipWith (fun (p : F) (z : Nat) => p * (t - ((z : Nat) : F))⁻¹) pows zs

section prover
variable (cfg : IpaCfg F G) (hc : CfgOk cfg) (fs : List (List F)) (pows : List F) (zs : List Nat)
  (hl : fs.length = zs.length) (hp : pows.length = fs.length)
  (hgood : Good cfg.N fs zs (List.range fs.length)) (w : Nat) (hw : 1 ≤ w) (order : List Nat)
  (hperm : order.Perm (List.range w)) (t : F)
include hl hp hgood hw hperm

/-- **`h = Σᵢ rⁱ/(t − zᵢ) • fᵢ`** — the compacted-denominator accumulation over the grouped
table is the linear combination over the openings. -/
theorem h_eq_lincomb :
    sumVecs cfg.N ((present (groupPolys cfg.N fs pows zs w order) 0).map
        fun e => e.2.map (· * (t - ((e.1 : Nat) : F))⁻¹))
      = lincomb cfg.N (mpScalars pows zs t) fs := by
  have hlenF : ∀ v ∈ fs, v.length = cfg.N := by
    intro v hv
    obtain ⟨i, hi, rfl⟩ := List.getElem_of_mem hv
    have := (hgood i (List.mem_range.mpr hi)).2
    simpa [List.getD_eq_getElem?_getD, hi] using this
  have hvs : ∀ v ∈ (present (groupPolys cfg.N fs pows zs w order) 0).map
      (fun e => e.2.map (· * (t - ((e.1 : Nat) : F))⁻¹)), v.length = cfg.N := by
    intro v hv
    obtain ⟨e, he, rfl⟩ := List.mem_map.mp hv
    simp only [List.length_map]
    exact (present_facts cfg.N fs pows zs hgood w hw order hperm e.1 e.2 he).2.1
  obtain ⟨l1, c1⟩ := sumVecs_spec cfg.N _ hvs
  obtain ⟨l2, c2⟩ := lincomb_spec cfg.N (mpScalars pows zs t) fs hlenF
  apply List.ext_getElem (by rw [l1, l2])
  intro j h1 h2
  have e1 := c1 j
  have e2 := c2 j
  rw [List.getD_eq_getElem?_getD, List.getElem?_eq_getElem h1] at e1
  rw [List.getD_eq_getElem?_getD, List.getElem?_eq_getElem h2] at e2
  simp only [Option.getD_some] at e1 e2
  rw [e1, e2, List.map_map]
  have hsum := sum_present_regroup cfg.N fs pows zs hgood w hw order hperm
    (fun z => (t - ((z : Nat) : F))⁻¹) (fun _ => j)
  have hL : (List.map ((fun v => v.getD j 0) ∘ fun e => List.map (fun x => x * (t - ((e.1 : Nat) : F))⁻¹) e.2)
      (present (groupPolys cfg.N fs pows zs w order) 0)).sum =
      ((present (groupPolys cfg.N fs pows zs w order) 0).map fun e => (t - ((e.1 : Nat) : F))⁻¹ * e.2.getD j 0).sum := by
    apply congrArg
    apply List.map_congr_left
    intro e _
    simp only [Function.comp, map_mul_getD]; ring
  rw [hL, hsum]
  have hml : (mpScalars pows zs t).length = fs.length := by simp [mpScalars, hp, hl]
  rw [zipWith_sum_range (fun s v => s * v.getD j 0) (mpScalars pows zs t) fs 0 [] hml, hml]
  apply congrArg
  apply List.map_congr_left
  intro i hi
  have hi' : i < fs.length := List.mem_range.mp hi
  have hsc : (mpScalars pows zs t).getD i 0 = pows.getD i 0 * (t - ((zs.getD i 0 : Nat) : F))⁻¹ := by
    unfold mpScalars
    rw [List.getD_eq_getElem?_getD, List.getElem?_zipWith]
    have h1 : i < pows.length := by omega
    have h2 : i < zs.length := by omega
    simp [List.getElem?_eq_getElem h1, List.getElem?_eq_getElem h2, List.getD_eq_getElem?_getD]
  rw [hsc]; ring

include hc in
/-- **`(h − g)(t) = Σᵢ rⁱ yᵢ/(t − zᵢ)`** for every challenge `t` that is not an opened point. -/
theorem ev_h_minus_g (ht : ∀ i, i < fs.length → t ≠ ((zs.getD i 0 : Nat) : F)) :
    ev cfg t (List.zipWith (· - ·)
        (sumVecs cfg.N ((present (groupPolys cfg.N fs pows zs w order) 0).map
          fun e => e.2.map (· * (t - ((e.1 : Nat) : F))⁻¹)))
        (sumVecs cfg.N ((present (groupPolys cfg.N fs pows zs w order) 0).map
          fun e => cfg.weights.divideOnDomain cfg.N e.1 e.2)))
      = ((List.range fs.length).map fun i =>
          (t - ((zs.getD i 0 : Nat) : F))⁻¹ * (pows.getD i 0 * (fs.getD i []).getD (zs.getD i 0) 0)).sum := by
  set P := present (groupPolys cfg.N fs pows zs w order) 0 with hP
  have hfacts := fun e (he : e ∈ P) => present_facts cfg.N fs pows zs hgood w hw order hperm e.1 e.2 he
  have hvh : ∀ v ∈ P.map (fun e => e.2.map (· * (t - ((e.1 : Nat) : F))⁻¹)), v.length = cfg.N := by
    intro v hv
    obtain ⟨e, he, rfl⟩ := List.mem_map.mp hv
    simp only [List.length_map]; exact (hfacts e he).2.1
  have hvg : ∀ v ∈ P.map (fun e => cfg.weights.divideOnDomain cfg.N e.1 e.2), v.length = cfg.N := by
    intro v hv
    obtain ⟨e, _, rfl⟩ := List.mem_map.mp hv
    exact divide_length _ _ _ _
  unfold ev
  rw [innerProd_subVec _ _ _ (by rw [(sumVecs_spec cfg.N _ hvh).1, (sumVecs_spec cfg.N _ hvg).1])]
  have e1 := ev_sumVecs cfg t cfg.N _ hvh
  have e2 := ev_sumVecs cfg t cfg.N _ hvg
  unfold ev at e1 e2
  rw [e1, e2, List.map_map, List.map_map, ← list_sum_map_sub]
  have hreg := sum_present_regroup cfg.N fs pows zs hgood w hw order hperm (fun z => (t - ((z : Nat) : F))⁻¹) id
  simp only [id] at hreg
  rw [← hreg]
  apply congrArg
  apply List.map_congr_left
  intro e he
  obtain ⟨hz, hlen, ⟨i, hi, hzi⟩, _⟩ := hfacts e he
  have htz : t ≠ ((e.1 : Nat) : F) := by rw [← hzi]; exact ht i hi
  simp only [Function.comp, id]
  have := ev_divide cfg hc t e.1 hz e.2 hlen htz
  unfold ev at this
  rw [this, innerProd_map_mul_left]
  ring

end prover

end GoIpa.Mp
