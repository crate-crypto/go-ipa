/-
  Euler's criterion for the executable `Zp p`, read off the canonical representative of the model's
  own power `x ^ (p / 2)`: what the Legendre functions, the square roots and the non-residue checks
  of both fields rest on.
-/
import Mathlib.NumberTheory.LegendreSymbol.Basic
import GoIpa.Lemmas.ZpField
namespace GoIpa.Zp
open GoIpa

variable {p : ℕ} [hp : Fact p.Prime] [h2 : Fact (2 < p)]

theorem toZ_eq_zero_iff (a : Zp p) : toZ a = 0 ↔ a.val = 0 := by
  simpa using toZ_eq_natCast_iff a 0 hp.out.pos

theorem toZ_eq_one_iff (a : Zp p) : toZ a = 1 ↔ a.val = 1 := by
  simpa using toZ_eq_natCast_iff a 1 hp.out.one_lt

theorem toZ_eq_neg_one_iff (a : Zp p) : toZ a = -1 ↔ a.val = p - 1 := by
  simpa [Nat.cast_sub hp.out.one_le] using toZ_eq_natCast_iff a (p - 1) (Nat.sub_lt hp.out.pos Nat.one_pos)

/-- **Euler's criterion with the model's power function**: `x ^ (p / 2)` is `0` for `0`, `1` for the non-zero
squares and `p − 1` otherwise -/
theorem pow_half_val (x : Zp p) :
    ((x ^ (p / 2)).val = 0 ↔ x = 0) ∧ ((x ^ (p / 2)).val = 1 ↔ x ≠ 0 ∧ IsSquare (toZ x)) ∧
      ((x ^ (p / 2)).val = p - 1 ↔ ¬ IsSquare (toZ x)) := by
  have hhalf : p / 2 ≠ 0 := by have := h2.out; omega
  rw [← toZ_eq_zero_iff, ← toZ_eq_one_iff, ← toZ_eq_neg_one_iff, toZ_pow, ne_eq, ← toZ_eq_zero (a := x)]
  refine ⟨pow_eq_zero_iff hhalf, ?_⟩
  by_cases hx : toZ x = 0
  · rw [hx, zero_pow hhalf]
    exact ⟨⟨fun h => absurd h zero_ne_one, fun h => absurd rfl h.1⟩,
      ⟨fun h => absurd h.symm (neg_ne_zero.2 one_ne_zero), fun h => absurd IsSquare.zero h⟩⟩
  · rw [ZMod.euler_criterion p hx]
    refine ⟨⟨fun h => ⟨hx, h⟩, And.right⟩, ?_⟩
    rcases ZMod.pow_div_two_eq_neg_one_or_one p hx with h | h <;> rw [h]
    · exact ⟨fun e => absurd e.symm ZMod.neg_one_ne_one, fun n => absurd rfl n⟩
    · exact ⟨fun _ => ZMod.neg_one_ne_one, fun _ => rfl⟩

/-- the Legendre function of the model (`Fp.legendre`, `Fr.legendre`) at any odd prime -/
def legendre (x : Zp p) : Int :=
  let l := x ^ ((p - 1) / 2)
  if l.val = 0 then 0 else if l.val = 1 then 1 else -1

theorem legendre_spec (x : Zp p) :
    (legendre x = 0 ↔ x = 0) ∧ (legendre x = 1 ↔ x ≠ 0 ∧ IsSquare (toZ x)) := by
  obtain ⟨h0, h1, -⟩ := pow_half_val x
  have hexp : (p - 1) / 2 = p / 2 := by
    rcases hp.out.eq_two_or_odd with h | h <;> have := h2.out <;> omega
  rw [← h0, ← h1, legendre, hexp]
  generalize (x ^ (p / 2)).val = v
  split_ifs with ha hb <;> simp [*]

end GoIpa.Zp
