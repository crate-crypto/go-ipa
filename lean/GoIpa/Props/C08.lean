/-
  C08 — the coordinate formulas used by go-ipa compute the twisted Edwards group law.
  Formula level, for every field and every curve parameters `a`, `d`: the projective,
  mixed, doubling and extended formulas (gnark-crypto's, and the repository's
  `ExtendedAddNormalized`) agree with the unified affine law whenever the affine law's
  denominators do not vanish; the affine law is commutative, has neutral element and
  inverses, keeps points on the curve and is compatible with the Banderwagon class map.
  Associativity / the group order are the G-assumption (see DESIGN.md §4).

  Every formula is handled the same way: on inputs written as `(x z, y z, z)` its output is, by
  `ring`, the triple `(Nx (1-k) w, Ny (1+k) w, (1+k)(1-k) w)` of numerators and denominators of the
  affine sum times a common factor `w` (`*_scaled`); `toAff_scaled` is the one place where a
  denominator is cleared.
-/
import Mathlib.Tactic.Ring
import Mathlib.Tactic.FieldSimp
import Mathlib.Tactic.LinearCombination
import Mathlib.Algebra.Field.Basic
import GoIpa.Model.Curve
import GoIpa.Model.Element
import GoIpa.Lemmas.EdwardsAssoc
namespace GoIpa.C08
open GoIpa

variable {F : Type} [Field F]

/-- the product `d·x₁x₂y₁y₂` whose `1 ± ·` are the denominators of the affine law -/
def kappa (c : Curve F) (p q : Aff F) : F := c.d * (p.x * q.x) * (p.y * q.y)

theorem aff_ext {p q : Aff F} (hx : p.x = q.x) (hy : p.y = q.y) : p = q := by
  cases p; cases q; simp_all

/-! ### projective representatives -/

theorem toAff_ofAff (q : Aff F) : (Proj.ofAff q).toAff = q := by
  simp [Proj.ofAff, Proj.toAff]

/-- a finite projective point is its affine image rescaled by `Z` -/
theorem eq_scaled {p : Proj F} (hp : p.Z ≠ 0) : p = ⟨p.toAff.x * p.Z, p.toAff.y * p.Z, p.Z⟩ := by
  simp only [Proj.toAff, inv_mul_cancel_right₀ hp]

/-- numerators `x`, `y` and denominators `u`, `v` of two fractions, all times `w`, as a
projective point: the point `(x/u, y/v)` -/
theorem toAff_scaled {x y u v w : F} (hu : u ≠ 0) (hv : v ≠ 0) (hw : w ≠ 0) :
    u * v * w ≠ 0 ∧ (⟨x * v * w, y * u * w, u * v * w⟩ : Proj F).toAff = ⟨x * u⁻¹, y * v⁻¹⟩ := by
  refine ⟨mul_ne_zero (mul_ne_zero hu hv) hw, ?_⟩
  simp only [Proj.toAff]
  congr 1 <;> field_simp

theorem proj_add_scaled (c : Curve F) (a b : Aff F) (z w : F) :
    Proj.add c ⟨a.x * z, a.y * z, z⟩ ⟨b.x * w, b.y * w, w⟩ =
      ⟨(a.x * b.y + a.y * b.x) * (1 - kappa c a b) * (z * w) ^ 4,
       (a.y * b.y - c.a * (a.x * b.x)) * (1 + kappa c a b) * (z * w) ^ 4,
       (1 + kappa c a b) * (1 - kappa c a b) * (z * w) ^ 4⟩ := by
  simp only [Proj.add, kappa]
  congr 1 <;> ring

/-- **Projective addition (`add-2008-bbjlp`) computes the affine law.** -/
theorem proj_add_affine (c : Curve F) (p q : Proj F) (hp : p.Z ≠ 0) (hq : q.Z ≠ 0)
    (h1 : 1 + kappa c p.toAff q.toAff ≠ 0) (h2 : 1 - kappa c p.toAff q.toAff ≠ 0) :
    (Proj.add c p q).Z ≠ 0 ∧ (Proj.add c p q).toAff = Aff.add c p.toAff q.toAff := by
  have e := proj_add_scaled c p.toAff q.toAff p.Z q.Z
  rw [← eq_scaled hp, ← eq_scaled hq] at e
  rw [e]
  exact toAff_scaled h1 h2 (pow_ne_zero 4 (mul_ne_zero hp hq))

/-- **The affine law is commutative.** -/
theorem aff_add_comm (c : Curve F) (p q : Aff F) : Aff.add c p q = Aff.add c q p := by
  apply aff_ext <;> simp only [Aff.add] <;> ring

/-- **Neutral element.** -/
theorem aff_add_zero (c : Curve F) (p : Aff F) : Aff.add c p Aff.zero = p := by
  apply aff_ext <;> simp [Aff.add, Aff.zero]

/-- **Inverse**: `P + (−P)` is the neutral element `(0, 1)` for every curve point whose
doubling denominators do not vanish. -/
theorem aff_add_neg (c : Curve F) (p : Aff F) (hp : p.onCurve c)
    (h1 : 1 + kappa c p p.neg ≠ 0) (h2 : 1 - kappa c p p.neg ≠ 0) : Aff.add c p p.neg = Aff.zero := by
  simp only [kappa, Aff.neg] at h1 h2
  unfold Aff.onCurve at hp
  apply aff_ext
  · simp only [Aff.add, Aff.neg, Aff.zero]
    have : p.x * p.y + p.y * -p.x = 0 := by ring
    rw [this, zero_mul]
  · simp only [Aff.add, Aff.neg, Aff.zero]
    rw [mul_inv_eq_iff_eq_mul₀ h2]
    linear_combination hp

/-- **Compatibility with the Banderwagon class map**: adding the other representative of a
class gives the other representative of the sum. -/
theorem aff_add_flip (c : Curve F) (p q : Aff F) : Aff.add c p.flip q = (Aff.add c p q).flip := by
  apply aff_ext <;> simp only [Aff.add, Aff.flip] <;> ring

theorem aff_neg_flip (p : Aff F) : p.flip.neg = p.neg.flip := by
  apply aff_ext <;> simp [Aff.neg, Aff.flip]

/-- the curve equation of a point given by two fractions, denominators cleared -/
theorem onCurve_frac (c : Curve F) {X Y u v : F} (hu : u ≠ 0) (hv : v ≠ 0)
    (h : c.a * (X * v) ^ 2 + (Y * u) ^ 2 = (u * v) ^ 2 + c.d * (X * Y) ^ 2) :
    (⟨X * u⁻¹, Y * v⁻¹⟩ : Aff F).onCurve c := by
  unfold Aff.onCurve
  field_simp
  linear_combination h

/-- **Closure.** The sum of two curve points is a curve point (when the denominators do not
vanish). -/
theorem aff_add_onCurve (c : Curve F) (p q : Aff F) (hp : p.onCurve c) (hq : q.onCurve c)
    (h1 : 1 + kappa c p q ≠ 0) (h2 : 1 - kappa c p q ≠ 0) : (Aff.add c p q).onCurve c :=
  onCurve_frac c h1 h2 (Edwards.closure_identity c p q hp hq)

/-- **Mixed addition (`madd-2008-bbjlp`) is projective addition with `Z₂ = 1`.** -/
theorem mixedAdd_eq_add (c : Curve F) (p : Proj F) (q : Aff F) :
    Proj.mixedAdd c p q = Proj.add c p (Proj.ofAff q) := by
  simp only [Proj.mixedAdd, Proj.add, Proj.ofAff, mul_one]

theorem mixedAdd_affine (c : Curve F) (p : Proj F) (q : Aff F) (hp : p.Z ≠ 0)
    (h1 : 1 + kappa c p.toAff q ≠ 0) (h2 : 1 - kappa c p.toAff q ≠ 0) :
    (Proj.mixedAdd c p q).Z ≠ 0 ∧ (Proj.mixedAdd c p q).toAff = Aff.add c p.toAff q := by
  have := proj_add_affine c p (Proj.ofAff q) hp one_ne_zero
  rw [toAff_ofAff, ← mixedAdd_eq_add] at this
  exact this h1 h2

/-- the dedicated doubling formula uses the curve equation to replace `1 + k` by `a x² + y²` -/
theorem proj_double_scaled (c : Curve F) (a : Aff F) (ha : a.onCurve c) (z : F) :
    Proj.double c ⟨a.x * z, a.y * z, z⟩ =
      ⟨(a.x * a.y + a.y * a.x) * (1 - kappa c a a) * (-z ^ 4),
       (a.y * a.y - c.a * (a.x * a.x)) * (1 + kappa c a a) * (-z ^ 4),
       (1 + kappa c a a) * (1 - kappa c a a) * (-z ^ 4)⟩ := by
  unfold Aff.onCurve at ha
  simp only [Proj.double, kappa]
  congr 1
  · linear_combination (2 * a.x * a.y * z ^ 4) * ha
  · linear_combination (-(a.y * a.y - c.a * (a.x * a.x)) * z ^ 4) * ha
  · linear_combination (z ^ 4 * (c.a * (a.x * a.x) + a.y * a.y + c.d * (a.x * a.x) * (a.y * a.y) - 1)) * ha

/-- **Doubling (`dbl-2008-bbjlp`) computes `P + P`** for points on the curve (the dedicated
formula uses the curve equation). -/
theorem proj_double_affine (c : Curve F) (p : Proj F) (hp : p.Z ≠ 0) (hc : p.toAff.onCurve c)
    (h1 : 1 + kappa c p.toAff p.toAff ≠ 0) (h2 : 1 - kappa c p.toAff p.toAff ≠ 0) :
    (Proj.double c p).Z ≠ 0 ∧ (Proj.double c p).toAff = Aff.add c p.toAff p.toAff := by
  have e := proj_double_scaled c p.toAff hc p.Z
  rw [← eq_scaled hp] at e
  rw [e]
  exact toAff_scaled h1 h2 (neg_ne_zero.mpr (pow_ne_zero 4 hp))

/-- an extended point is consistent when `T·Z = X·Y` -/
def ExtOk (p : Ext F) : Prop := p.Z ≠ 0 ∧ p.T * p.Z = p.X * p.Y

theorem ext_eq_scaled {p : Ext F} (hp : ExtOk p) :
    p = ⟨p.toProj.toAff.x * p.Z, p.toProj.toAff.y * p.Z, p.Z, p.toProj.toAff.x * p.toProj.toAff.y * p.Z⟩ := by
  obtain ⟨X, Y, Z, T⟩ := p
  obtain ⟨hz, ht⟩ := hp
  simp only at hz ht
  simp only [Ext.toProj, Proj.toAff, inv_mul_cancel_right₀ hz, Ext.mk.injEq, true_and]
  field_simp
  linear_combination ht

theorem ext_add_scaled (c : Curve F) (a b : Aff F) (z w : F) :
    Ext.add c ⟨a.x * z, a.y * z, z, a.x * a.y * z⟩ ⟨b.x * w, b.y * w, w, b.x * b.y * w⟩ =
      ⟨(a.x * b.y + a.y * b.x) * (1 - kappa c a b) * (z * w) ^ 2,
       (a.y * b.y - c.a * (a.x * b.x)) * (1 + kappa c a b) * (z * w) ^ 2,
       (1 + kappa c a b) * (1 - kappa c a b) * (z * w) ^ 2,
       (a.x * b.y + a.y * b.x) * (a.y * b.y - c.a * (a.x * b.x)) * (z * w) ^ 2⟩ := by
  simp only [Ext.add, kappa]
  congr 1 <;> ring

/-- **Extended addition (`add-2008-hwcd`) computes the affine law and keeps `T·Z = X·Y`.** -/
theorem ext_add_affine (c : Curve F) (p q : Ext F) (hp : ExtOk p) (hq : ExtOk q)
    (h1 : 1 + kappa c p.toProj.toAff q.toProj.toAff ≠ 0) (h2 : 1 - kappa c p.toProj.toAff q.toProj.toAff ≠ 0) :
    ExtOk (Ext.add c p q) ∧ (Ext.add c p q).toProj.toAff = Aff.add c p.toProj.toAff q.toProj.toAff := by
  have e := ext_add_scaled c p.toProj.toAff q.toProj.toAff p.Z q.Z
  rw [← ext_eq_scaled hp, ← ext_eq_scaled hq] at e
  rw [e]
  obtain ⟨hz, ha⟩ := toAff_scaled (x := _) (y := _) h1 h2 (pow_ne_zero 2 (mul_ne_zero hp.1 hq.1))
  exact ⟨⟨hz, by ring⟩, ha⟩

/-- **`ExtendedAddNormalized`** (the repository's own mixed formula, second operand `Z = 1`,
`T = X·Y`) is extended addition with the normalised operand. -/
theorem addN_eq_add (c : Curve F) (p : Ext F) (q : ExtN F) :
    Ext.addN c p q = Ext.add c p ⟨q.X, q.Y, 1, q.T⟩ := by
  simp only [Ext.addN, Ext.add, mul_one]

/-- negation of a normalised table entry is the negated point -/
theorem extN_neg (q : Aff F) : (ExtN.ofAff q).neg = ExtN.ofAff q.neg := by
  simp [ExtN.neg, ExtN.ofAff, Aff.neg]

/-- `Sub` is `Add` of the negation (for every aliasing pattern the model is a pure function) -/
theorem sub_eq_add_neg (p q : Pt) : p - q = p + -q := rfl

end GoIpa.C08
