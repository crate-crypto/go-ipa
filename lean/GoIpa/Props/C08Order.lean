/-
  C08 — the order of the Banderwagon group, proved without point counting.

  For a finite field `F` and a twisted Edwards curve whose parameters `a`, `d`, `−d` **and** `−a`
  are non-squares:

  * `card_sqX_le` — exactly the involution argument: `x ↦ (a x)⁻¹` sends an `x ≠ 0` with
    `1 − a x²` a square to one with `1 − a x²` a non-square (otherwise `−a` would be a square), so
    at most `(|F|+1)/2` abscissae pass the decoder's subgroup test;
  * `card_sub_le` — each abscissa carries at most two subgroup points, hence `|Sub| ≤ |F| + 1`
    and `2·|Banderwagon| ≤ |F| + 1`;
  * `no_two_torsion` — the quotient `Banderwagon = Sub ⧸ {(0,1),(0,−1)}` has no element of order 2
    (the doubling formula: `2P ∈ {(0,±1)}` forces `x = 0`);
  * `exponent_of_generator` — if some non-zero element is killed by a prime `r` with
    `|F| + 1 < 6 r`, then `|Banderwagon| = r` (it is `r` or `2r` by Lagrange and the bound, and
    `2r` is excluded by Cauchy's theorem and `no_two_torsion`) and **every** element is killed by `r`.

  `C08Concrete` instantiates this at Bandersnatch: the hypothesis "`r • generator = 0`" is a kernel
  computation with the model's own double-and-add on `Fp`, so the `Fr`-module structure of the
  Banderwagon group, over which C01–C05 and C09 are proved, is a theorem and no longer an assumption.
-/
import Mathlib.GroupTheory.Perm.Cycle.Type
import Mathlib.GroupTheory.OrderOfElement
import Mathlib.GroupTheory.Coset.Card
import Mathlib.Algebra.Order.BigOperators.Group.Finset
import GoIpa.Props.C08Group
namespace GoIpa.C08
open GoIpa

variable {F : Type} [Field F]

/-! ### at most `(|F|+1)/2` abscissae pass the subgroup test -/

theorem a_ne_zero (c : Curve F) (ha : ¬IsSquare c.a) : c.a ≠ 0 := by
  intro h; apply ha; rw [h]; exact ⟨0, by ring⟩

theorem u_ne_zero (c : Curve F) (ha : ¬IsSquare c.a) (x : F) : 1 - c.a * (x * x) ≠ 0 :=
  fun h => C07.mul_sq_ne_one ha x (by linear_combination -h)

/-- the involution `x ↦ (a x)⁻¹` exchanges "`1 − a x²` square" and "non-square" -/
theorem flip_character (c : Curve F) (ha : ¬IsSquare c.a) (hna : ¬IsSquare (-c.a)) (x : F) (hx : x ≠ 0)
    (hs : IsSquare (1 - c.a * (x * x))) :
    ¬IsSquare (1 - c.a * ((c.a * x)⁻¹ * (c.a * x)⁻¹)) := by
  rintro ⟨t, ht⟩
  obtain ⟨s, hs⟩ := hs
  have ha0 := a_ne_zero c ha
  have hs0 : s ≠ 0 := by
    intro h0; rw [h0, mul_zero] at hs; exact u_ne_zero c ha x hs
  apply hna
  refine ⟨t * (c.a * x) * s⁻¹, ?_⟩
  have hax : c.a * x ≠ 0 := mul_ne_zero ha0 hx
  have e : (1 - c.a * ((c.a * x)⁻¹ * (c.a * x)⁻¹)) * (c.a * x) ^ 2 = -c.a * (1 - c.a * (x * x)) := by
    field_simp; ring
  rw [ht, hs] at e
  symm
  calc t * (c.a * x) * s⁻¹ * (t * (c.a * x) * s⁻¹) = (t * t * (c.a * x) ^ 2) * (s⁻¹ * s⁻¹) := by ring
    _ = -c.a * (s * s) * (s⁻¹ * s⁻¹) := by rw [e]
    _ = -c.a := by field_simp

section Count
variable [Fintype F]

open Classical in
/-- the abscissae that pass the decoder's subgroup test -/
noncomputable def sqX (c : Curve F) : Finset F := Finset.univ.filter fun x => IsSquare (1 - c.a * (x * x))

open Classical in
theorem card_sqX_le (c : Curve F) (ha : ¬IsSquare c.a) (hna : ¬IsSquare (-c.a)) :
    2 * (sqX c).card ≤ Fintype.card F + 1 := by
  have ha0 := a_ne_zero c ha
  have h0 : (0 : F) ∈ sqX c := by
    simp only [sqX, Finset.mem_filter, Finset.mem_univ, true_and]
    exact ⟨1, by ring⟩
  -- among the `x ≠ 0`, `x ↦ (a x)⁻¹` sends those that pass the test injectively to those that fail
  have hle : (((Finset.univ : Finset F).erase 0).filter fun x => IsSquare (1 - c.a * (x * x))).card ≤
      (((Finset.univ : Finset F).erase 0).filter fun x => ¬IsSquare (1 - c.a * (x * x))).card := by
    apply Finset.card_le_card_of_injOn (fun x => (c.a * x)⁻¹)
    · intro x hx
      obtain ⟨hxU, hxP⟩ := Finset.mem_filter.mp hx
      have hx0 : x ≠ 0 := Finset.ne_of_mem_erase hxU
      exact Finset.mem_filter.mpr ⟨Finset.mem_erase.mpr ⟨inv_ne_zero (mul_ne_zero ha0 hx0), Finset.mem_univ _⟩,
        flip_character c ha hna x hx0 hxP⟩
    · intro x _ y _ h
      exact mul_left_cancel₀ ha0 (inv_injective h)
  have hsum := Finset.card_filter_add_card_filter_not (s := (Finset.univ : Finset F).erase 0)
    (fun x => IsSquare (1 - c.a * (x * x)))
  rw [Finset.card_erase_of_mem (Finset.mem_univ _), Finset.card_univ, Finset.filter_erase] at hsum
  rw [Finset.filter_erase] at hle
  have hS : ((sqX c).erase 0).card + 1 = (sqX c).card := Finset.card_erase_add_one h0
  have hpos : 0 < Fintype.card F := Fintype.card_pos
  unfold sqX at hS ⊢
  omega

/-! ### at most two subgroup points per abscissa -/

/-- `Aff F` is `F × F` -/
def affEquiv : Aff F ≃ F × F where
  toFun p := (p.x, p.y)
  invFun q := ⟨q.1, q.2⟩
  left_inv p := by cases p; rfl
  right_inv q := by cases q; rfl

noncomputable instance : Fintype (Aff F) := Fintype.ofEquiv _ affEquiv.symm

open Classical in
noncomputable instance (c : Curve F) : Fintype (Sub c) := Subtype.fintype _

variable (c : Curve F) [hc : Fact (NonSq c)]

omit [Fintype F] in
/-- two subgroup points with the same abscissa have equal or opposite ordinates -/
theorem same_x (p q : Sub c) (h : p.1.x = q.1.x) : q = p ∨ q = -(p + Sub.two c) := by
  have e1 := u_eq c p.1 p.2.on
  have e2 := u_eq c q.1 q.2.on
  rw [← h] at e2
  have hv := v_ne_zero c hc.out p.1.x
  have hy : q.1.y * q.1.y = p.1.y * p.1.y := by
    apply mul_right_cancel₀ hv
    rw [← e1, ← e2]
  have hfac : (q.1.y - p.1.y) * (q.1.y + p.1.y) = 0 := by linear_combination hy
  rcases mul_eq_zero.mp hfac with h1 | h1
  · left
    apply Subtype.ext
    apply aff_ext
    · exact h.symm
    · linear_combination h1
  · right
    apply Subtype.ext
    rw [Sub.neg_val, Sub.add_two]
    apply aff_ext
    · simp [Aff.neg, Aff.flip, h]
    · simp only [Aff.neg, Aff.flip]; linear_combination h1

open Classical in
theorem card_sub_le (hna : ¬IsSquare (-c.a)) : Fintype.card (Sub c) ≤ Fintype.card F + 1 := by
  have himg : (Finset.univ : Finset (Sub c)).image (fun p => p.1.x) ⊆ sqX c := by
    intro x hx
    obtain ⟨p, _, rfl⟩ := Finset.mem_image.mp hx
    simp only [sqX, Finset.mem_filter, Finset.mem_univ, true_and]
    exact p.2.sq
  have hfib : ∀ b ∈ (Finset.univ : Finset (Sub c)).image (fun p => p.1.x),
      ((Finset.univ : Finset (Sub c)).filter fun p => p.1.x = b).card ≤ 2 := by
    intro b hb
    obtain ⟨p, _, rfl⟩ := Finset.mem_image.mp hb
    have : ((Finset.univ : Finset (Sub c)).filter fun q => q.1.x = p.1.x) ⊆ {p, -(p + Sub.two c)} := by
      intro q hq
      have hq' : q.1.x = p.1.x := by simpa using hq
      rcases same_x c p q hq'.symm with h | h
      · rw [h]; exact Finset.mem_insert_self _ _
      · rw [h]; exact Finset.mem_insert_of_mem (Finset.mem_singleton_self _)
    exact (Finset.card_le_card this).trans Finset.card_le_two
  have h1 := Finset.card_le_mul_card_image (Finset.univ : Finset (Sub c)) 2 hfib
  have h2 := Finset.card_le_card himg
  have h3 := card_sqX_le c hc.out.a hna
  rw [Finset.card_univ] at h1
  omega

/-! ### the quotient has no element of order two -/

omit [Fintype F] hc in
theorem two_ne_zero_sub (h2 : (2 : F) ≠ 0) : Sub.two c ≠ 0 := by
  intro h
  have hy : (Sub.two c).1.y = (0 : Sub c).1.y := by rw [h]
  have : (-1 : F) = 1 := by simpa [Sub.two, Aff.flip, Aff.zero, Sub.zero_val] using hy
  apply h2
  linear_combination -this

omit [Fintype F] in
/-- **No 2-torsion**: `g + g = 0` in the Banderwagon group only for `g = 0`. -/
theorem no_two_torsion (h2 : (2 : F) ≠ 0) (g : Banderwagon c) (hg : g + g = 0) : g = 0 := by
  induction g using QuotientAddGroup.induction_on with
  | H p =>
    have hmem : p + p ∈ Sub.T2 c := by
      rw [← QuotientAddGroup.eq_zero_iff]
      exact hg
    have hx0 : (p + p).1.x = 0 := by
      rcases (Sub.mem_T2 c _).mp hmem with h | h
      · rw [h]; rfl
      · rw [h]; simp [Sub.two, Aff.flip, Aff.zero]
    obtain ⟨h1, _⟩ := sub_complete hc.out p.2 p.2
    rw [Sub.add_val] at hx0
    simp only [Aff.add] at hx0
    unfold kappa at h1
    have hnum : p.1.x * p.1.y + p.1.y * p.1.x = 0 := by
      rcases mul_eq_zero.mp hx0 with h | h
      · exact h
      · exact absurd h (inv_ne_zero h1)
    have hy := y_ne_zero c hc.out.a p.1 p.2.on
    have hx : p.1.x = 0 := by
      have : (2 * p.1.y) * p.1.x = 0 := by linear_combination hnum
      rcases mul_eq_zero.mp this with h | h
      · exact absurd h (mul_ne_zero h2 hy)
      · exact h
    have hon := p.2.on
    unfold Aff.onCurve at hon
    rw [hx] at hon
    have hfac : (p.1.y - 1) * (p.1.y + 1) = 0 := by linear_combination hon
    rw [QuotientAddGroup.eq_zero_iff, Sub.mem_T2]
    rcases mul_eq_zero.mp hfac with h | h
    · left
      apply Subtype.ext; apply aff_ext
      · exact hx
      · show p.1.y = 1; linear_combination h
    · right
      apply Subtype.ext; apply aff_ext
      · simp [Sub.two, Aff.flip, Aff.zero, hx]
      · simp only [Sub.two, Aff.flip, Aff.zero]; linear_combination h

/-! ### the order -/

noncomputable instance : Fintype (Banderwagon c) := by
  classical exact Fintype.ofFinite _

theorem card_T2 (h2 : (2 : F) ≠ 0) : 2 ≤ Nat.card (Sub.T2 c) := by
  have : Nontrivial (Sub.T2 c) :=
    ⟨⟨⟨Sub.two c, Or.inr rfl⟩, ⟨0, Or.inl rfl⟩, fun h => two_ne_zero_sub c h2 (congrArg Subtype.val h)⟩⟩
  exact Finite.one_lt_card

theorem two_mul_card_le (h2 : (2 : F) ≠ 0) (hna : ¬IsSquare (-c.a)) :
    2 * Nat.card (Banderwagon c) ≤ Fintype.card F + 1 := by
  have h := AddSubgroup.card_eq_card_quotient_mul_card_addSubgroup (Sub.T2 c)
  have h1 := card_T2 c h2
  have h3 := card_sub_le c hna
  rw [← Nat.card_eq_fintype_card] at h3
  calc 2 * Nat.card (Banderwagon c) = Nat.card (Banderwagon c) * 2 := by ring
    _ ≤ Nat.card (Banderwagon c) * Nat.card (Sub.T2 c) := Nat.mul_le_mul_left _ h1
    _ = Nat.card (Sub c) := h.symm
    _ ≤ _ := h3

/-- **The order of the Banderwagon group.** If a non-zero element is killed by a prime `r` with
`|F| + 1 < 6 r`, the group has exactly `r` elements. -/
theorem card_of_generator (h2 : (2 : F) ≠ 0) (hna : ¬IsSquare (-c.a)) (r : ℕ) (hr : r.Prime)
    (hsize : Fintype.card F + 1 < 6 * r) (g : Banderwagon c) (hg0 : g ≠ 0) (hgr : r • g = 0) :
    Nat.card (Banderwagon c) = r := by
  have hord : addOrderOf g = r := by
    have := Fact.mk hr
    exact addOrderOf_eq_prime hgr hg0
  have hdvd : r ∣ Nat.card (Banderwagon c) := hord ▸ addOrderOf_dvd_natCard g
  obtain ⟨k, hk⟩ := hdvd
  have hle := two_mul_card_le c h2 hna
  have hpos : 0 < Nat.card (Banderwagon c) := Nat.card_pos
  have hk3 : k < 3 := by
    by_contra hk3
    have : 3 ≤ k := by omega
    have : r * 3 ≤ r * k := Nat.mul_le_mul_left _ this
    omega
  have hk0 : k ≠ 0 := by
    intro h0; rw [h0, mul_zero] at hk; omega
  have hk12 : k = 1 ∨ k = 2 := by omega
  rcases hk12 with rfl | rfl
  · omega
  · exfalso
    have h2dvd : 2 ∣ Nat.card (Banderwagon c) := ⟨r, by rw [hk]; ring⟩
    have : Fact (Nat.Prime 2) := ⟨Nat.prime_two⟩
    obtain ⟨x, hx⟩ := exists_prime_addOrderOf_dvd_card' 2 h2dvd
    have hxx : x + x = 0 := by
      have := addOrderOf_nsmul_eq_zero x
      rw [hx, two_nsmul] at this
      exact this
    have hx0 := no_two_torsion c h2 x hxx
    rw [hx0, addOrderOf_zero] at hx
    omega

/-- **Every element of the Banderwagon group is killed by `r`.** -/
theorem exponent_of_generator (h2 : (2 : F) ≠ 0) (hna : ¬IsSquare (-c.a)) (r : ℕ) (hr : r.Prime)
    (hsize : Fintype.card F + 1 < 6 * r) (g : Banderwagon c) (hg0 : g ≠ 0) (hgr : r • g = 0) :
    ∀ x : Banderwagon c, r • x = 0 := by
  intro x
  rw [← card_of_generator c h2 hna r hr hsize g hg0 hgr]
  exact card_nsmul_eq_zero'

end Count

end GoIpa.C08
