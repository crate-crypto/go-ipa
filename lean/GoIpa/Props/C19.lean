/-
  C19 — batch helpers agree with the single-element operations, for every list, every
  representation and every aliasing pattern.
-/
import GoIpa.Props.C07
import GoIpa.Lemmas.BatchInvert
import GoIpa.Model.Batch
namespace GoIpa.C19
open GoIpa

variable {F : Type} [Field F] [DecidableEq F]

/-- **`ElementsToBytes` = `Bytes` position by position**, for every list (any length, repeated
elements, `Z = 1` or not). -/
theorem batchEncode_eq_map (lexLargest : F → Bool) (enc : F → Bytes) (ps : List (Proj F)) :
    batchEncode lexLargest enc ps = ps.map (Proj.encode lexLargest enc) := by
  unfold batchEncode
  rw [zipWith_batchInvert]
  apply List.map_congr_left
  intro p _
  unfold Proj.encode
  by_cases hz : p.Z = 1
  · simp [hz]
  · simp [hz, Proj.toAff]

/-- **`BatchToBytesUncompressed` = `BytesUncompressedTrusted` position by position.** -/
theorem batchEncodeUncompressed_eq_map (enc : F → Bytes) (ps : List (Proj F)) :
    batchEncodeUncompressed enc ps = ps.map fun p => enc p.toAff.x ++ enc p.toAff.y :=
  zipWith_batchInvert ps _ _

/-- **`BatchMapToScalarField` = `MapToScalarField` position by position** (see C11). -/
theorem batchMap_eq_map (ps : List (Proj F)) : batchMapToBase ps = ps.map Proj.mapToBase :=
  zipWith_batchInvert ps _ _

/-- normalisation keeps the element and makes `Z = 1` -/
theorem normalize_class (p : Proj F) (hz : p.Z ≠ 0) : C07.ClassEq p.normalize p ∧ p.normalize.Z = 1 := by
  refine ⟨Or.inl ?_, rfl⟩
  simp [Proj.normalize, Proj.toAff]

/-- **All-or-nothing.** If some referenced element has `Z = 0`, `BatchNormalize` reports an
error and produces no new heap (nothing is modified). -/
theorem batchNormalize_fails (heap : List (Proj F)) (order : List Nat)
    (h : ∃ i ∈ order, (heap.getD i ⟨0, 0, 0⟩).Z = 0) : batchNormalize heap order = none := by
  unfold batchNormalize
  have : order.any (fun i => decide ((heap.getD i ⟨0, 0, 0⟩).Z = 0)) = true := by
    obtain ⟨i, hi, hz⟩ := h
    exact List.any_eq_true.mpr ⟨i, hi, by simpa using hz⟩
  rw [if_pos this]

private theorem fold_spec (d : Proj F) (heap : List (Proj F)) :
    ∀ (l : List Nat) (h : List (Proj F)), l.Nodup → (∀ i ∈ l, i < heap.length) → h.length = heap.length →
      (∀ i ∈ l, h.getD i d = heap.getD i d) →
      let r := (List.zip l (l.map fun i => (heap.getD i d).Z⁻¹)).foldl (fun h (e : Nat × F) =>
        let p := h.getD e.1 d
        h.set e.1 ⟨p.X * e.2, p.Y * e.2, 1⟩) h
      r.length = heap.length ∧ (∀ i ∈ l, r.getD i d = (heap.getD i d).normalize) ∧ (∀ j, j ∉ l → r.getD j d = h.getD j d) := by
  intro l
  induction l with
  | nil => intro h _ _ hl _; simp [hl]
  | cons a l ih =>
    intro h hnd hb hl hag
    simp only [List.map_cons, List.zip_cons_cons, List.foldl_cons]
    have hnd' := (List.nodup_cons.mp hnd)
    set h1 := h.set a ⟨(h.getD a d).X * (heap.getD a d).Z⁻¹, (h.getD a d).Y * (heap.getD a d).Z⁻¹, 1⟩ with hh1
    have hl1 : h1.length = heap.length := by simp [hh1, hl]
    have ha : a < h.length := by rw [hl]; exact hb a (by simp)
    have hag1 : ∀ i ∈ l, h1.getD i d = heap.getD i d := by
      intro i hi
      have hne : a ≠ i := fun e => hnd'.1 (e ▸ hi)
      rw [hh1, List.getD_eq_getElem?_getD, List.getElem?_set_ne hne, ← List.getD_eq_getElem?_getD]
      exact hag i (by simp [hi])
    obtain ⟨r1, r2, r3⟩ := ih h1 hnd'.2 (fun i hi => hb i (by simp [hi])) hl1 hag1
    refine ⟨r1, ?_, ?_⟩
    · intro i hi
      rcases List.mem_cons.mp hi with e | hi
      · subst e
        rw [r3 i hnd'.1, hh1, List.getD_eq_getElem?_getD, List.getElem?_set_self ha]
        simp only [Option.getD_some, Proj.normalize]
        rw [hag i (by simp)]
      · exact r2 i hi
    · intro j hj
      have hja : a ≠ j := fun e => hj (by simp [e])
      have hjl : j ∉ l := fun e => hj (by simp [e])
      rw [r3 j hjl, hh1, List.getD_eq_getElem?_getD, List.getElem?_set_ne hja, ← List.getD_eq_getElem?_getD]

/-- **`BatchNormalize` with arbitrary aliasing.** `order` is the (arbitrary) iteration order of the
de-duplicated pointer set.  When every referenced element has `Z ≠ 0`, every referenced element
is replaced by its normal form (same group element, `Z = 1`) exactly once — whatever the order
— and unreferenced heap cells are untouched. -/
theorem batchNormalize_spec (heap : List (Proj F)) (order : List Nat) (hnd : order.Nodup)
    (hb : ∀ i ∈ order, i < heap.length) (hz : ∀ i ∈ order, (heap.getD i ⟨0, 0, 0⟩).Z ≠ 0) :
    ∃ r, batchNormalize heap order = some r ∧ r.length = heap.length ∧
      (∀ i ∈ order, r.getD i ⟨0, 0, 0⟩ = (heap.getD i ⟨0, 0, 0⟩).normalize) ∧
      (∀ j, j ∉ order → r.getD j ⟨0, 0, 0⟩ = heap.getD j ⟨0, 0, 0⟩) := by
  unfold batchNormalize
  have hany : order.any (fun i => decide ((heap.getD i ⟨0, 0, 0⟩).Z = 0)) = false := by
    rw [List.any_eq_false]
    intro i hi
    simpa using hz i hi
  simp only [hany, Bool.false_eq_true, ↓reduceIte]
  rw [batchInvert_eq_map, List.map_map]
  have := fold_spec (⟨0, 0, 0⟩ : Proj F) heap order heap hnd hb rfl (fun _ _ => rfl)
  exact ⟨_, rfl, this⟩

/-- the result does not depend on the iteration order of the pointer set -/
theorem batchNormalize_order_independent (heap : List (Proj F)) (o1 o2 : List Nat)
    (hp : o1.Perm o2) (hnd : o1.Nodup) (hb : ∀ i ∈ o1, i < heap.length)
    (hz : ∀ i ∈ o1, (heap.getD i ⟨0, 0, 0⟩).Z ≠ 0) : batchNormalize heap o1 = batchNormalize heap o2 := by
  obtain ⟨r1, e1, l1, a1, b1⟩ := batchNormalize_spec heap o1 hnd hb hz
  obtain ⟨r2, e2, l2, a2, b2⟩ := batchNormalize_spec heap o2 (hp.nodup_iff.mp hnd)
    (fun i hi => hb i (hp.mem_iff.mpr hi)) (fun i hi => hz i (hp.mem_iff.mpr hi))
  rw [e1, e2]
  congr 1
  apply List.ext_getElem (by rw [l1, l2])
  intro i h1 h2
  have g1 : r1.getD i ⟨0, 0, 0⟩ = r1[i] := by simp [List.getD_eq_getElem?_getD, h1]
  have g2 : r2.getD i ⟨0, 0, 0⟩ = r2[i] := by simp [List.getD_eq_getElem?_getD, h2]
  rw [← g1, ← g2]
  by_cases hi : i ∈ o1
  · rw [a1 i hi, a2 i (hp.mem_iff.mp hi)]
  · rw [b1 i hi, b2 i (fun h => hi (hp.mem_iff.mpr h))]

/-! concrete instance with aliasing (pointer 0 referenced twice → de-duplicated order [2, 0]) -/
example : batchNormalize ([⟨2, 4, 2⟩, ⟨1, 1, 5⟩, ⟨3, 3, 3⟩] : List (Proj ℚ)) [2, 0] =
    some [⟨1, 2, 1⟩, ⟨1, 1, 5⟩, ⟨1, 1, 1⟩] := by
  simp [batchNormalize, batchInvert_eq_map]; norm_num

end GoIpa.C19
