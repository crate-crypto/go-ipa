/-
  C01 — multiproof completeness, end to end: for every honest statement the proof returned by
  `CreateMultiProof` is accepted by `CheckMultiProof`, for every worker count and arrival order
  of the grouping step, and both parties end in the same transcript state.
-/
import GoIpa.Props.C02Mp
import GoIpa.Props.C04
namespace GoIpa.C01
open GoIpa GoIpa.Grouping GoIpa.Mp

variable {F G : Type} [Field F] [DecidableEq F] [AddCommGroup G] [Module F G]
variable (enc : Enc F G)

/-- an honest statement: as many evaluation indices as polynomials, at least one, every
polynomial of length `N`, every index inside the domain -/
structure Honest (cfg : IpaCfg F G) (fs : List (List F)) (zs : List Nat) : Prop where
  len : fs.length = zs.length
  nonempty : fs.length ≠ 0
  polys : ∀ f ∈ fs, f.length = cfg.N
  points : ∀ z ∈ zs, z < cfg.N

theorem Honest.good {cfg : IpaCfg F G} {fs : List (List F)} {zs : List Nat} (h : Honest cfg fs zs) :
    Good cfg.N fs zs (List.range fs.length) := by
  intro i hi
  have hi' : i < fs.length := List.mem_range.mp hi
  have hz : i < zs.length := by rw [← h.len]; exact hi'
  constructor
  · rw [List.getD_eq_getElem?_getD, List.getElem?_eq_getElem hz]
    exact h.points _ (List.getElem_mem hz)
  · rw [List.getD_eq_getElem?_getD, List.getElem?_eq_getElem hi']
    exact h.polys _ (List.getElem_mem hi')

/-- **Completeness of the multiproof.**  For every field `F` in which the domain points are
distinct, every `F`-module `G`, every hash/encoder with a reflexive point equality, every
configuration with `N = 2^k` basis points, every honest statement `(fᵢ, zᵢ)` with commitments
`Cᵢ = Σⱼ fᵢ[j]·Gⱼ` and values `yᵢ = fᵢ[zᵢ]`, every worker count `w ≥ 1` and every order in which
the workers' tables are merged: if the challenge `t` is not one of the opened points and no
folding challenge is zero, then `CreateMultiProof` returns a proof, `CheckMultiProof` accepts it
with no error, and prover and verifier end in the same transcript state. -/
theorem multiproof_complete (cfg : IpaCfg F G) (hc : CfgOk cfg) (hrefl : ∀ p : G, enc.eqG p p = true)
    (tr : Tr) (fs : List (List F)) (zs : List Nat) (hon : Honest cfg fs zs)
    (w : Nat) (hw : 1 ≤ w) (order : List Nat) (hperm : order.Perm (List.range w)) :
    let Cs := fs.map (msm cfg.srs)
    let s := proverState enc cfg tr Cs fs zs w order
    (∀ i, i < fs.length → s.t ≠ ((zs.getD i 0 : Nat) : F)) →
    (∀ x ∈ C04.honestChallenges enc cfg s.tr (s.E - s.D) (List.zipWith (· - ·) s.h s.g) s.t, x ≠ 0) →
    ∃ proof, (mpProve enc cfg tr Cs fs zs w order).1 = some proof ∧
      mpVerify enc cfg tr proof Cs (honestYs fs zs) zs
        = (.ok true, (mpProve enc cfg tr Cs fs zs w order).2) := by
  intro Cs s ht hch
  have hCl : Cs.length = fs.length := by simp [Cs]
  have hyl : (honestYs fs zs).length = fs.length := by simp [honestYs, hon.len]
  set rc := (absorbStmt enc tr Cs (honestYs fs zs) zs).challenge enc Label.r with hrc
  set pows := powersOf rc.1 Cs.length with hpows
  have hpl : pows.length = fs.length := by rw [hpows, powersOf_length, hCl]
  have hgood := hon.good
  -- the two accumulated vectors
  have hglen : s.g.length = cfg.N := by
    refine (sumVecs_spec cfg.N _ ?_).1
    intro v hv
    obtain ⟨e, _, rfl⟩ := List.mem_map.mp hv
    exact divide_length _ _ _ _
  have hh : s.h = lincomb cfg.N (mpScalars pows zs s.t) fs :=
    h_eq_lincomb cfg fs pows zs hon.len hpl hgood w hw order hperm s.t
  have hhlen : s.h.length = cfg.N := by rw [hh]; exact (lincomb_spec cfg.N _ fs hon.polys).1
  -- E as the verifier computes it
  have hE : s.E = msm Cs (mpScalars pows zs s.t) := by
    show msm cfg.srs s.h = _
    rw [hh, msm_lincomb cfg.N cfg.srs _ fs hon.polys]
  -- the commitment of the inner-product argument
  have hcomm : s.E - s.D = msm cfg.srs (List.zipWith (· - ·) s.h s.g) := by
    rw [msm_subVec cfg.srs s.h s.g (by rw [hhlen, hglen])]; rfl
  -- the value of the inner-product argument
  have hval : innerProd (List.zipWith (· - ·) s.h s.g) (bVector cfg s.t)
      = ((List.range fs.length).map fun i =>
          (s.t - ((zs.getD i 0 : Nat) : F))⁻¹ * (pows.getD i 0 * (fs.getD i []).getD (zs.getD i 0) 0)).sum :=
    ev_h_minus_g cfg hc fs pows zs hon.len hpl hgood w hw order hperm s.t ht
  -- the inner-product argument
  have hsrs : cfg.srs.length = 2 ^ cfg.rounds := by rw [hc.srs_len, hc.pow]
  obtain ⟨ip, hip1, hip2⟩ := C04.ipa_complete enc cfg s.tr (List.zipWith (· - ·) s.h s.g) s.t hsrs
    (by rw [List.length_zipWith, hhlen, hglen, Nat.min_self, hc.pow])
    (by rw [bVector_length cfg hc, hc.pow]) hrefl (s.E - s.D) hcomm hch
  refine ⟨⟨ip, s.D⟩, ?_, ?_⟩
  · rw [mpProve_eq]
    show Option.map _ (ipaProve enc cfg s.tr (s.E - s.D) (List.zipWith (· - ·) s.h s.g) s.t).1 = _
    rw [hip1]; rfl
  · rw [mpProve_eq]
    show _ = (Except.ok true, (ipaProve enc cfg s.tr (s.E - s.D) (List.zipWith (· - ·) s.h s.g) s.t).2)
    have hval' : innerProd (List.zipWith (· - ·) s.h s.g) (bVector cfg s.t)
        = ((List.range Cs.length).map fun i =>
            (s.t - ((zs.getD i 0 : Nat) : F))⁻¹ * (pows.getD i 0 * (honestYs fs zs).getD i 0)).sum := by
      rw [hval, hCl]
      apply congrArg
      apply List.map_congr_left
      intro i hi
      rw [honestYs_getD fs zs hon.len i (List.mem_range.mp hi)]
    have htr : s.tr = ((rc.2.appendPoint enc s.D Label.D).challenge enc Label.t).2.appendPoint enc s.E Label.E := rfl
    -- the reference verifier recomputes `E` and the value `(h − g)(t)` from the statement
    rw [← hip2, hval', htr, hE, C02.mpVerify_eq_spec enc cfg hsrs tr _ Cs _ zs hon.points, C02.specMpVerify,
      if_neg (by rw [hCl, hyl]; simp), if_neg (by rw [hCl, hon.len]; simp), if_neg (by rw [hCl]; exact hon.nonempty),
      ← C02.ipaVerify_eq_spec enc cfg hsrs]
    rfl
