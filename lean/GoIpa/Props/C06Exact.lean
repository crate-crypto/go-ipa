/-
  C06 — the decoder with the real square root: untrusted compressed decoding succeeds exactly
  for 32-byte canonical encodings of an `x` that is the abscissa of a curve point and passes the
  subgroup test, and what it returns is that point with the lexicographically larger `y`.
-/
import Mathlib.Tactic.FieldSimp
import GoIpa.Props.C06
import GoIpa.Props.C07
import GoIpa.Props.Concrete
import GoIpa.Lemmas.SqrtPrecompProof
namespace GoIpa.C06
open GoIpa GoIpa.Zp GoIpa.SqrtPre

/-- the right-hand side of `y² = (a x² − 1)/(d x² − 1)` -/
def radicand (x : Fp) : Fp := (bandersnatch.a * (x * x) - 1) / (bandersnatch.d * (x * x) - 1)

/-- `d x² − 1` never vanishes, because `d` is not a square -/
theorem den_ne_zero (x : Fp) : Zp.toZ bandersnatch.d * (Zp.toZ x * Zp.toZ x) - 1 ≠ 0 :=
  fun h => C07.mul_sq_ne_one Concrete.d_not_square (Zp.toZ x) (by linear_combination h)

theorem onCurve_iff_sq (x y : Fp) : (⟨x, y⟩ : Aff Fp).onCurve bandersnatch ↔ y * y = radicand x := by
  have hden : bandersnatch.d * (x * x) - 1 ≠ 0 := fun h =>
    C07.mul_sq_ne_one (mt (isSquare_toZ_iff _).2 Concrete.d_not_square) x (by linear_combination h)
  unfold Aff.onCurve radicand
  rw [eq_div_iff hden]
  constructor <;> intro h <;> linear_combination -h

/-- **`x` is the abscissa of a curve point iff the radicand is a square** -/
theorem exists_y_iff (x : Fp) :
    (∃ y : Fp, (⟨x, y⟩ : Aff Fp).onCurve bandersnatch) ↔ IsSquare (Zp.toZ (radicand x)) := by
  simp only [isSquare_toZ_iff, onCurve_iff_sq]
  exact ⟨fun ⟨y, h⟩ => ⟨y, h.symm⟩, fun ⟨y, h⟩ => ⟨y, h.symm⟩⟩

theorem fp_legendre_one_iff (x : Fp) : Fp.legendre x = 1 ↔ (Zp.toZ x ≠ 0 ∧ IsSquare (Zp.toZ x)) := by
  rw [ne_eq, toZ_eq_zero]
  exact (Zp.legendre_spec x).2

/-- **Subgroup test**: `1 − a x²` is a non-zero square -/
theorem subgroupOk_iff (x : Fp) :
    subgroupOk x = true ↔
      (1 - Zp.toZ bandersnatch.a * (Zp.toZ x * Zp.toZ x) ≠ 0 ∧
        IsSquare (1 - Zp.toZ bandersnatch.a * (Zp.toZ x * Zp.toZ x))) := by
  unfold subgroupOk
  rw [beq_iff_eq, fp_legendre_one_iff]
  simp only [toZ_sub, toZ_mul, toZ_one]

/-- **Untrusted compressed decoding accepts exactly the canonical subgroup encodings.**  It
succeeds iff the input has 32 bytes, its big-endian value `x` is below `p`, `x` is the abscissa
of a curve point, and `1 − a x²` is a non-zero square. -/
theorem decode_accepts_iff (b : Bytes) :
    (∃ p, decodeCompressed Fp.sqrtPrecomp b false = .ok p) ↔
      (b.length = 32 ∧ ∃ h : beNat b < P,
        (∃ y : Fp, (⟨⟨beNat b, h⟩, y⟩ : Aff Fp).onCurve bandersnatch) ∧ subgroupOk ⟨beNat b, h⟩ = true) := by
  constructor
  · rintro ⟨p, hp⟩
    obtain ⟨hl, hlt, hx, _, hsub, hcy⟩ := decode_ok_shape Fp.sqrtPrecomp b p hp
    have hxe : p.X = ⟨beNat b, hlt⟩ := zp_ext _ _ hx
    refine ⟨hl, hlt, ?_, by rw [← hxe]; exact hsub⟩
    rw [← hxe, exists_y_iff]
    by_contra hns
    have hnone := (sqrtPrecomp_spec (radicand p.X)).2.mpr hns
    have := (C17.computeY_none_iff Fp.sqrtPrecomp p.X true).mpr hnone
    rw [this] at hcy
    cases hcy
  · rintro ⟨hl, hlt, hy, hsub⟩
    rw [exists_y_iff] at hy
    have hsome : Fp.sqrtPrecomp (radicand ⟨beNat b, hlt⟩) ≠ none := fun hn =>
      ((sqrtPrecomp_spec _).2.mp hn) hy
    have hcy : computeY Fp.sqrtPrecomp ⟨beNat b, hlt⟩ true ≠ none := fun hn =>
      hsome ((C17.computeY_none_iff Fp.sqrtPrecomp _ true).mp hn)
    obtain ⟨y, hyv⟩ := Option.ne_none_iff_exists'.mp hcy
    refine ⟨⟨⟨beNat b, hlt⟩, y, 1⟩, ?_⟩
    unfold decodeCompressed
    rw [if_neg (fun hne => hne hl), dif_pos hlt]
    simp only
    rw [hyv]
    simp only [hsub, Bool.not_false, Bool.not_true, Bool.and_false, Bool.false_eq_true, ↓reduceIte]

theorem computeY_sq (sqrt : Fp → Option Fp) (hsqrt : ∀ v r, sqrt v = some r → r * r = v)
    (x y : Fp) (largest : Bool) (h : computeY sqrt x largest = some y) : y * y = radicand x := by
  rw [C17.computeY_eq] at h
  obtain ⟨r, hs, rfl⟩ := Option.map_eq_some_iff.1 h
  split_ifs
  · exact hsqrt _ r hs
  · rw [neg_mul_neg]; exact hsqrt _ r hs

/-- **What is returned is the curve point with the larger `y`** -/
theorem decode_returns_point (b : Bytes) (p : Pt) (h : decodeCompressed Fp.sqrtPrecomp b false = .ok p) :
    p.Z = 1 ∧ (⟨p.X, p.Y⟩ : Aff Fp).onCurve bandersnatch ∧ (p.Y.val ≠ 0 → Fp.lexLargest p.Y = true) := by
  obtain ⟨_, _, _, hz, _, hcy⟩ := decode_ok_shape Fp.sqrtPrecomp b p h
  exact ⟨hz, (onCurve_iff_sq _ _).2 (computeY_sq _ (fun v r => (sqrtPrecomp_spec v).1 r) _ _ true hcy),
    computeY_largest _ _ _ hcy⟩

end GoIpa.C06
