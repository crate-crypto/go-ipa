/-
  C11 — map-to-scalar-field is a well-defined function on group elements, and the batch
  variant returns exactly the same values.
-/
import GoIpa.Props.C07
import GoIpa.Lemmas.BatchInvert
import GoIpa.Model.Batch
namespace GoIpa.C11
open GoIpa

variable {F : Type} [Field F] [DecidableEq F]

/-- **Representation independence.** Rescaling projectively or passing to `(-x,-y)` does not
change `x/y`. -/
theorem map_scale_invariant (p : Proj F) (l : F) (hl : l ≠ 0) :
    (⟨l * p.X, l * p.Y, l * p.Z⟩ : Proj F).mapToBase = p.mapToBase := by
  unfold Proj.mapToBase
  by_cases hy : p.Y = 0
  · simp [hy]
  · field_simp

theorem map_flip_invariant (p : Proj F) : (⟨-p.X, -p.Y, p.Z⟩ : Proj F).mapToBase = p.mapToBase := by
  unfold Proj.mapToBase
  by_cases hy : p.Y = 0
  · simp [hy]
  · field_simp

/-- **Equal value iff equal element** (in the base field, before the reduction mod `r`). -/
theorem map_iff_class (c : Curve F) (ha : ¬IsSquare c.a) (hd : ¬IsSquare c.d) (p q : Proj F)
    (hp : C07.Valid c p) (hq : C07.Valid c q) : p.mapToBase = q.mapToBase ↔ C07.ClassEq p q :=
  C07.map_iff_class c ha hd p q hp hq

/-- elements that are not `Equal` have different `x/y` -/
theorem map_ne_of_not_equal (c : Curve F) (ha : ¬IsSquare c.a) (hd : ¬IsSquare c.d) (p q : Proj F)
    (hp : C07.Valid c p) (hq : C07.Valid c q) (h : Proj.equalE p q = false) : p.mapToBase ≠ q.mapToBase := by
  intro e
  have := (C07.equal_iff_class c ha hd p q hp hq).mpr ((map_iff_class c ha hd p q hp hq).mp e)
  rw [this] at h; cases h

/-- **The batch variant returns exactly the same values**, position by position, for lists of
any length, with duplicates and with `Y = 0` entries (mapped like the single variant, `0⁻¹ = 0`). -/
theorem batchMap_eq_map (ps : List (Proj F)) : batchMapToBase ps = ps.map Proj.mapToBase :=
  zipWith_batchInvert ps _ _

/-! concrete instance (non-vacuity) over ℚ -/
example : batchMapToBase ([⟨1, 2, 1⟩, ⟨3, 0, 1⟩, ⟨1, 2, 1⟩] : List (Proj ℚ)) = [1/2, 0, 1/2] := by
  rw [batchMap_eq_map]; norm_num [Proj.mapToBase]

end GoIpa.C11
