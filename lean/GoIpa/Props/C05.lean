/-
  C05 — the Pedersen commitment computed with the precomputed tables and the signed-window
  recoder equals Σ vᵢ • Gᵢ, in every abelian group, for every window value and carry chain.
-/
import Mathlib.Tactic.Module
import Mathlib.Tactic.Ring
import Mathlib.Tactic.Linarith
import Mathlib.Tactic.LinearCombination
import Mathlib.Tactic.Abel
import Mathlib.Algebra.Module.NatInt
import GoIpa.Model.Precomp
import GoIpa.Model.Field
import GoIpa.Lemmas.BitField
namespace GoIpa.C05
open GoIpa

/-- **Window extraction.** The limb / shift / mask expression of the code reads window `k` of
the scalar: `(s / 2^(w·k)) mod 2^w`, for every window width dividing 64. -/
theorem windowRaw_eq (w s k : Nat) (hw : 0 < w) (hdvd : w ∣ 64) :
    windowRaw w s k = s / 2 ^ (w * k) % 2 ^ w := by
  obtain ⟨q, hq⟩ := hdvd
  have hq0 : 0 < q := Nat.pos_of_ne_zero (by rintro rfl; omega)
  have hdiv : 64 / w = q := by rw [hq]; exact Nat.mul_div_cancel_left q hw
  -- window `k` lies inside limb `k / q`: bits `[w·(k % q), w·(k % q) + w)` of it
  have hle : w * (k % q) + w ≤ 64 := by
    have := Nat.mul_le_mul_left w (Nat.succ_le_of_lt (Nat.mod_lt k hq0))
    rwa [Nat.mul_succ, ← hq] at this
  unfold windowRaw limb
  simp only [hdiv, Nat.shiftRight_eq_div_pow, Nat.one_shiftLeft, Nat.and_two_pow_sub_one_eq_mod]
  rw [Bits.field_field s _ 64 _ w hle]
  congr 3
  rw [hq, Nat.mul_assoc, ← Nat.mul_add, Nat.div_add_mod]

section recoder
variable {G : Type} [AddCommGroup G]

/-- loop invariant after `k` windows: the accumulator is `acc + m • P` with
`m + carry · 2^(w·k) = s mod 2^(w·k)` and the carry is 0 or 1 -/
def Inv (w s : Nat) (P acc : G) (k : Nat) (st : G × Nat) : Prop :=
  ∃ m : ℤ, st.1 = acc + m • P ∧ m + (st.2 : ℤ) * (((2 ^ w) ^ k : ℕ) : ℤ) = ((s % (2 ^ w) ^ k : ℕ) : ℤ) ∧ st.2 ≤ 1

/-- one recoder step in abstract form: window base `b = 2·half`, weight `B`, digit `d < b`,
incoming carry `c ≤ 1`, table row `tbl j = ((j+1)·B) • P` -/
theorem step_core (P acc st1 : G) (b half B S d c : ℕ) (m : ℤ) (hb : b = 2 * half) (hd : d < b)
    (hc : c ≤ 1) (hm : m + (c : ℤ) * (B : ℤ) = (S : ℤ)) (tbl : ℕ → G)
    (htbl : ∀ j, tbl j = (((j + 1 : ℕ) : ℤ) * (B : ℤ)) • P) (hacc : st1 = acc + m • P) :
    ∀ res : G × ℕ,
      res = (if d + c = 0 then (st1, c)
        else if d + c > half then ((if b - (d + c) ≠ 0 then st1 + -tbl (b - (d + c) - 1) else st1), 1)
        else (st1 + tbl (d + c - 1), 0)) →
      ∃ m' : ℤ, res.1 = acc + m' • P ∧ m' + (res.2 : ℤ) * ((B : ℤ) * (b : ℤ)) = (S : ℤ) + (B : ℤ) * (d : ℤ) ∧
        res.2 ≤ 1 ∧ (d < half → res.2 = 0) := by
  rintro _ rfl
  split_ifs with hv0 hbig hz
  · obtain ⟨rfl, rfl⟩ : d = 0 ∧ c = 0 := by omega
    exact ⟨m, hacc, by simpa using hm, hc, fun _ => rfl⟩
  · refine ⟨m - ((b : ℤ) - ((d : ℤ) + (c : ℤ))) * (B : ℤ), ?_, by push_cast; linear_combination hm, le_refl 1,
      fun h => by omega⟩
    have hj : ((b - (d + c) - 1 + 1 : ℕ) : ℤ) = (b : ℤ) - ((d : ℤ) + (c : ℤ)) := by omega
    simp only [htbl, hj, hacc]
    module
  · refine ⟨m, hacc, ?_, le_refl 1, fun h => by omega⟩
    have hveq : (d : ℤ) + (c : ℤ) = (b : ℤ) := by omega
    push_cast
    linear_combination hm - (B : ℤ) * hveq
  · refine ⟨m + ((d : ℤ) + (c : ℤ)) * (B : ℤ), ?_, by push_cast; linear_combination hm, Nat.zero_le 1, fun _ => rfl⟩
    have hj : ((d + c - 1 + 1 : ℕ) : ℤ) = (d : ℤ) + (c : ℤ) := by omega
    simp only [htbl, hj, hacc]
    module

theorem step_inv (w s : Nat) (hw : 0 < w) (hdvd : w ∣ 64) (P acc : G) (tbl : Nat → Nat → G)
    (htbl : ∀ k j, tbl k j = ((j + 1) * 2 ^ (w * k)) • P) (k : Nat) (st : G × Nat)
    (h : Inv w s P acc k st) :
    Inv w s P acc (k + 1) (precompStep w tbl s st k) ∧
      (s / (2 ^ w) ^ k % 2 ^ w < 2 ^ (w - 1) → (precompStep w tbl s st k).2 = 0) := by
  obtain ⟨m, hacc, hm, hc⟩ := h
  have hbpos : 0 < 2 ^ w := Nat.two_pow_pos w
  have hdlt : s / (2 ^ w) ^ k % 2 ^ w < 2 ^ w := Nat.mod_lt _ hbpos
  have hsucc : s % (2 ^ w) ^ (k + 1) = s % (2 ^ w) ^ k + (2 ^ w) ^ k * (s / (2 ^ w) ^ k % 2 ^ w) := Nat.mod_pow_succ
  have hhalf : 2 ^ w = 2 * 2 ^ (w - 1) := by
    rw [← Nat.pow_succ']; congr 1; omega
  have hraw : windowRaw w s k = s / (2 ^ w) ^ k % 2 ^ w := by
    rw [windowRaw_eq w s k hw hdvd, Nat.pow_mul]
  have htblZ : ∀ j, tbl k j = (((j + 1 : ℕ) : ℤ) * (((2 ^ w) ^ k : ℕ) : ℤ)) • P := by
    intro j
    rw [htbl, Nat.pow_mul, ← natCast_zsmul]
    push_cast
    rfl
  obtain ⟨m', h1, h2, h3, h4⟩ := step_core P acc st.1 (2 ^ w) (2 ^ (w - 1)) ((2 ^ w) ^ k) (s % (2 ^ w) ^ k)
    (s / (2 ^ w) ^ k % 2 ^ w) st.2 m hhalf hdlt hc hm (tbl k) htblZ hacc (precompStep w tbl s st k) (by
      unfold precompStep
      simp only [hraw, Nat.one_shiftLeft])
  refine ⟨⟨m', h1, ?_, h3⟩, h4⟩
  rw [hsucc, pow_succ, Nat.cast_add, Nat.cast_mul, Nat.cast_mul]
  exact h2

theorem fold_inv (w s : Nat) (hw : 0 < w) (hdvd : w ∣ 64) (P acc : G) (tbl : Nat → Nat → G)
    (htbl : ∀ k j, tbl k j = ((j + 1) * 2 ^ (w * k)) • P) (n : Nat) :
    Inv w s P acc n ((List.range n).foldl (precompStep w tbl s) (acc, 0)) := by
  induction n with
  | zero => exact ⟨0, by simp, by simp [Nat.mod_one], by simp⟩
  | succ n ih =>
    rw [List.range_succ, List.foldl_append]
    exact (step_inv w s hw hdvd P acc tbl htbl n _ ih).1

/-- **The recoder is correct.** For every window width `w` dividing 64 (the code uses 8 and 16),
every table with `tbl k j = ((j+1)·2^(w·k)) • P`, every accumulator and every scalar below
`2^255`, `PrecompPoint.ScalarMul` adds exactly `s • P` — whatever the window values and carry
chains are. -/
theorem precompScalarMul_spec (w s : Nat) (hw : 0 < w) (hdvd : w ∣ 64) (hs : s < 2 ^ 255)
    (P acc : G) (tbl : Nat → Nat → G) (htbl : ∀ k j, tbl k j = ((j + 1) * 2 ^ (w * k)) • P) :
    precompScalarMul w tbl s acc = acc + s • P := by
  have hwn : w * (256 / w) = 256 := Nat.mul_div_cancel' (Dvd.dvd.trans hdvd ⟨4, rfl⟩)
  obtain ⟨n, hn⟩ : ∃ n, 256 / w = n + 1 :=
    ⟨256 / w - 1, (Nat.sub_add_cancel (Nat.pos_of_ne_zero fun h => by rw [h] at hwn; omega)).symm⟩
  rw [hn, Nat.mul_succ] at hwn
  unfold precompScalarMul
  rw [hn, List.range_succ, List.foldl_append]
  obtain ⟨⟨m, hacc, hm, _⟩, hcarry⟩ :=
    step_inv w s hw hdvd P acc tbl htbl n _ (fold_inv w s hw hdvd P acc tbl htbl n)
  -- the top window of a scalar below 2^255 is below 2^(w-1): no final carry
  have htop : s / (2 ^ w) ^ n % 2 ^ w < 2 ^ (w - 1) := by
    have := Bits.field_lt_of_lt s (w * n) w 255 hs
    rwa [Nat.pow_mul, show 255 - w * n = w - 1 by omega] at this
  rw [hcarry htop, ← Nat.pow_mul, Nat.mul_succ, hwn, Nat.mod_eq_of_lt (Nat.lt_trans hs (by norm_num))] at hm
  simp only [List.foldl_cons, List.foldl_nil]
  rw [hacc, show m = (s : ℤ) by simpa using hm, natCast_zsmul]

/-- every scalar-field element satisfies the bound the recoder needs -/
theorem fr_lt_pow255 (s : Fr) : s.val < 2 ^ 255 := Nat.lt_trans s.lt (by decide)

/-- **The bound is necessary**: over the group ℤ with `P = 1` the 8-bit recoder maps the
256-bit all-ones scalar to `-1`, not to the scalar (the carry out of the top window is dropped). -/
theorem precompScalarMul_needs_bound :
    precompScalarMul 8 (fun k j => (((j + 1) * 2 ^ (8 * k) : ℕ) : ℤ)) (2 ^ 256 - 1) 0 = -1 := by
  decide

end recoder

section msm
variable {G : Type} [AddCommGroup G]

/-- **The 256-MSM.** With tables built over the basis `Gs` (16-bit windows for the first `lim`
points, 8-bit for the rest), zero scalars skipped, `MSMPrecomp.MSM` returns `Σ vᵢ • Gᵢ`. -/
theorem precompMSM_spec (lim : Nat) (Gs : Nat → G) (tbls : Nat → Nat → Nat → G)
    (htbl : ∀ i k j, tbls i k j = ((j + 1) * 2 ^ ((if i < lim then 16 else 8) * k)) • Gs i)
    (scalars : List Nat) (hs : ∀ s ∈ scalars, s < 2 ^ 255) :
    precompMSM lim tbls scalars = ((List.zipIdx scalars).map fun e => e.1 • Gs e.2).sum := by
  unfold precompMSM
  rw [List.sum_eq_foldl, List.foldl_map]
  apply List.foldl_ext
  intro acc e he
  by_cases h0 : e.1 = 0
  · simp [h0]
  · rw [if_neg h0]
    exact precompScalarMul_spec _ e.1 (by split <;> norm_num) (by split <;> norm_num)
      (hs e.1 (List.fst_mem_of_mem_zipIdx he)) (Gs e.2) acc (tbls e.2) (htbl e.2)

theorem buildWindow_length (base : G) (n : Nat) (curr : G) : (buildWindow base n curr).length = n := by
  induction n generalizing curr with
  | zero => rfl
  | succ n ih => simp [buildWindow, ih]

/-- the inner loop `windows[i][j] = curr; curr += base`: entry `j` is `curr + j • base` -/
theorem buildWindow_get (base : G) (n : Nat) (curr : G) (j : Nat) (hj : j < n) :
    (buildWindow base n curr)[j]? = some (curr + j • base) := by
  induction n generalizing curr j with
  | zero => omega
  | succ n ih =>
    cases j with
    | zero => simp [buildWindow]
    | succ j =>
      simp only [buildWindow, List.getElem?_cons_succ]
      rw [ih (curr + base) j (by omega)]
      congr 1
      rw [succ_nsmul]; abel

theorem buildTable_length (w : Nat) (shift : G → G) (n : Nat) (base : G) :
    (buildTable w shift n base).length = n := by
  induction n generalizing base with
  | zero => rfl
  | succ n ih => simp [buildTable, ih]

/-- **The table `NewPrecompPoint` builds.** With the base update `point ← 2^w • point` between
windows (the code's `point.ScalarMul(&point, &specialWindow)`), entry `j` of window `k` is
`(j+1)·2^(w·k) • P` — for every window width, every number of windows and every point. -/
theorem buildTable_spec (w : Nat) (shift : G → G) (hshift : ∀ b, shift b = (2 ^ w) • b) (n : Nat) (P : G)
    (k : Nat) (hk : k < n) (j : Nat) (hj : j < 1 <<< (w - 1)) :
    ((buildTable w shift n P)[k]?.bind fun win => win[j]?) = some (((j + 1) * 2 ^ (w * k)) • P) := by
  induction n generalizing P k with
  | zero => omega
  | succ n ih =>
    cases k with
    | zero =>
      simp only [buildTable, List.getElem?_cons_zero, Option.bind_some]
      rw [buildWindow_get P _ P j hj]
      congr 1
      rw [Nat.mul_zero, pow_zero, Nat.mul_one, succ_nsmul]; abel
    | succ k =>
      simp only [buildTable, List.getElem?_cons_succ]
      rw [ih (shift P) k (by omega), hshift, ← mul_nsmul']
      congr 2
      rw [Nat.mul_succ, pow_add]; ring

/-- the table as the function `PrecompPoint.ScalarMul` indexes -/
def tableFn (t : List (List G)) (k j : Nat) : G := ((t[k]?.bind fun win => win[j]?).getD 0)

theorem tableFn_built (w : Nat) (shift : G → G) (hshift : ∀ b, shift b = (2 ^ w) • b) (n : Nat) (P : G)
    (k : Nat) (hk : k < n) (j : Nat) (hj : j < 1 <<< (w - 1)) :
    tableFn (buildTable w shift n P) k j = ((j + 1) * 2 ^ (w * k)) • P := by
  unfold tableFn; rw [buildTable_spec w shift hshift n P k hk j hj]; rfl

/-- the recoder only reads entries `j < 2^(w-1)` of window `k` -/
theorem precompStep_congr (w : Nat) (hw : 0 < w) (tbl tbl' : Nat → Nat → G) (s : Nat) (st : G × Nat) (k : Nat)
    (h : ∀ j, j < 1 <<< (w - 1) → tbl k j = tbl' k j) :
    precompStep w tbl s st k = precompStep w tbl' s st k := by
  have hhalf : 1 <<< w = 2 * (1 <<< (w - 1)) := by
    simp only [Nat.one_shiftLeft]
    rw [← Nat.pow_succ']; congr 1; omega
  unfold precompStep
  simp only
  split_ifs
  · rfl
  · rw [h _ (by omega)]
  · rfl
  · rw [h _ (by omega)]

theorem precompScalarMul_congr (w : Nat) (hw : 0 < w) (tbl tbl' : Nat → Nat → G) (s : Nat) (acc : G)
    (h : ∀ k, k < 256 / w → ∀ j, j < 1 <<< (w - 1) → tbl k j = tbl' k j) :
    precompScalarMul w tbl s acc = precompScalarMul w tbl' s acc := by
  unfold precompScalarMul
  rw [List.foldl_ext _ _ _ fun st k hk => precompStep_congr w hw tbl tbl' s st k (h k (List.mem_range.mp hk))]

/-- **`NewPrecompPoint` followed by `PrecompPoint.ScalarMul`**: with the table the constructor
builds (`256/w` windows of `2^(w-1)` entries, base multiplied by `2^w` between windows), the
recoder adds exactly `s • P`, for every scalar below `2^255`. -/
theorem precompScalarMul_built (w s : Nat) (hw : 0 < w) (hdvd : w ∣ 64) (hs : s < 2 ^ 255)
    (shift : G → G) (hshift : ∀ b, shift b = (2 ^ w) • b) (P acc : G) :
    precompScalarMul w (tableFn (buildTable w shift (256 / w) P)) s acc = acc + s • P := by
  rw [precompScalarMul_congr w hw _ (fun k j => ((j + 1) * 2 ^ (w * k)) • P) s acc
    (fun k hk j hj => tableFn_built w shift hshift (256 / w) P k hk j hj)]
  exact precompScalarMul_spec w s hw hdvd hs P acc _ (fun _ _ => rfl)

/-- **`NewPrecompMSM` followed by `MSMPrecomp.MSM`** over the tables the constructor builds. -/
theorem precompMSM_built (lim : Nat) (Gs : Nat → G) (scalars : List Nat) (hs : ∀ s ∈ scalars, s < 2 ^ 255) :
    precompMSM lim (fun i => tableFn (buildTable (if i < lim then 16 else 8)
        (fun b => (2 ^ (if i < lim then 16 else 8)) • b) (256 / (if i < lim then 16 else 8)) (Gs i))) scalars
      = ((List.zipIdx scalars).map fun e => e.1 • Gs e.2).sum := by
  rw [← precompMSM_spec lim Gs (fun i k j => ((j + 1) * 2 ^ ((if i < lim then 16 else 8) * k)) • Gs i)
    (fun _ _ _ => rfl) scalars hs]
  unfold precompMSM
  apply List.foldl_ext
  intro acc e _
  by_cases h0 : e.1 = 0
  · simp [h0]
  · simp only [h0, ↓reduceIte]
    exact precompScalarMul_congr _ (by split <;> norm_num) _ _ _ _
      (fun k hk j hj => tableFn_built _ _ (fun _ => rfl) _ (Gs e.2) k hk j hj)

end msm
end GoIpa.C05
