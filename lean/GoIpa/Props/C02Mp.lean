/-
  C02 — the implementation-shaped multiproof verifier (grouped evaluations, batch-inverted
  denominators over the whole domain, zero-skipping accumulation, table lookups for the MSM
  scalars) decides exactly what the reference verifier decides, on every input.
-/
import GoIpa.Lemmas.MpVerifier
import GoIpa.Props.C02
namespace GoIpa.C02
open GoIpa GoIpa.Mp GoIpa.Grouping

variable {F G : Type} [Field F] [DecidableEq F] [AddCommGroup G] [Module F G]
variable (enc : Enc F G)

/-- the reference verifier of the multiproof: the textbook equations, nothing shared with the
implementation's tables or grouping -/
def specMpVerify (cfg : IpaCfg F G) (tr : Tr) (proof : MultiProof F G) (Cs : List G) (ys : List F) (zs : List Nat) :
    Except VErr Bool × Tr :=
  let tr0 := tr.domainSep Label.multiproof
  if Cs.length ≠ ys.length then (.error .lenCY, tr0)
  else if Cs.length ≠ zs.length then (.error .lenCZ, tr0)
  else if Cs.length = 0 then (.error .zeroQueries, tr0)
  else
    let rc := (absorbStmt enc tr Cs ys zs).challenge enc Label.r
    let pows := powersOf rc.1 Cs.length
    let tc := (rc.2.appendPoint enc proof.D Label.D).challenge enc Label.t
    let t := tc.1
    -- g₂(t) = Σ rⁱ yᵢ / (t − zᵢ)
    let g2 := ((List.range Cs.length).map fun i =>
        (t - ((zs.getD i 0 : Nat) : F))⁻¹ * (pows.getD i 0 * ys.getD i 0)).sum
    -- E = Σ (rⁱ / (t − zᵢ)) • Cᵢ
    let E := msm Cs (mpScalars pows zs t)
    specIpaVerify enc cfg (tc.2.appendPoint enc E Label.E) (E - proof.D) proof.ipa t g2

/-- `g₂(t)` of the implementation for arbitrary claimed values -/
theorem verifier_g2_any (N : Nat) (ys pows : List F) (zs : List Nat) (t : F)
    (hl : ys.length = zs.length) (hp : pows.length = ys.length) (hz : ∀ z ∈ zs, z < N) :
    (List.zip (groupedEvals N (List.zip pows (List.zip ys zs)) (List.replicate N 0))
        (batchInvert ((List.range N).map fun (i : Nat) => t - (i : F)))).foldl
        (fun (acc : F) (e : F × F) => if e.1 = 0 then acc else acc + e.1 * e.2) 0
      = ((List.range ys.length).map fun i =>
          (t - ((zs.getD i 0 : Nat) : F))⁻¹ * (pows.getD i 0 * ys.getD i 0)).sum :=
  g2_eq N ys pows zs t hl hp hz

/-- **The multiproof verifier is the reference verifier.**  For every field, module, hash,
configuration with `2^k` basis points, transcript, proof, commitments, claimed values and domain
indices `zᵢ < N` (honest or not, any lengths): `CheckMultiProof` returns exactly what the
reference verifier returns — same decision or error, same transcript state. -/
theorem mpVerify_eq_spec (cfg : IpaCfg F G) (hsrs : cfg.srs.length = 2 ^ cfg.rounds) (tr : Tr)
    (proof : MultiProof F G) (Cs : List G) (ys : List F) (zs : List Nat) (hz : ∀ z ∈ zs, z < cfg.N) :
    mpVerify enc cfg tr proof Cs ys zs = specMpVerify enc cfg tr proof Cs ys zs := by
  unfold mpVerify specMpVerify
  by_cases h1 : Cs.length ≠ ys.length
  · rw [if_pos h1, if_pos h1]
  rw [if_neg h1, if_neg h1]
  by_cases h2 : Cs.length ≠ zs.length
  · rw [if_pos h2, if_pos h2]
  rw [if_neg h2, if_neg h2]
  by_cases h3 : Cs.length = 0
  · rw [if_pos h3, if_pos h3]
  rw [if_neg h3, if_neg h3]
  have e1 : Cs.length = ys.length := by simpa using h1
  have e2 : Cs.length = zs.length := by simpa using h2
  set rc := (absorbStmt enc tr Cs ys zs).challenge enc Label.r with hrc
  set pows := powersOf rc.1 Cs.length with hpows
  have hpl : pows.length = ys.length := by rw [hpows, powersOf_length, e1]
  set tc := (rc.2.appendPoint enc proof.D Label.D).challenge enc Label.t with htc
  have hg2 := verifier_g2_any cfg.N ys pows zs tc.1 (by rw [← e1, e2]) hpl hz
  have hsc := verifier_scalars cfg.N pows zs tc.1 hz
  unfold groupedEvals at hg2
  rw [← e1] at hg2
  rw [← ipaVerify_eq_spec enc cfg hsrs]
  show ipaVerify enc cfg
      (Tr.appendPoint enc tc.2
        (msm Cs (List.zipWith (fun (p : F) (z : Nat) =>
          p * (batchInvert ((List.range cfg.N).map fun (i : Nat) => tc.1 - (i : F))).getD z 0) pows zs)) Label.E)
      (msm Cs (List.zipWith (fun (p : F) (z : Nat) =>
          p * (batchInvert ((List.range cfg.N).map fun (i : Nat) => tc.1 - (i : F))).getD z 0) pows zs) - proof.D)
      proof.ipa tc.1
      ((List.zip (List.foldl (fun (ge : List F) (e : F × F × Nat) => ge.set e.2.2 (ge.getD e.2.2 0 + e.1 * e.2.1))
          (List.replicate cfg.N 0) (List.zip pows (List.zip ys zs)))
        (batchInvert ((List.range cfg.N).map fun (i : Nat) => tc.1 - (i : F)))).foldl
        (fun (acc : F) (e : F × F) => if e.1 = 0 then acc else acc + e.1 * e.2) 0)
    = _
  rw [hsc, hg2]

end GoIpa.C02
