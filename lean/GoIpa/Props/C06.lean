/-
  C06 — untrusted point decoding accepts only canonical encodings and re-encodes to the
  same bytes.  Structural theorems about the decoder of the model over the concrete base
  field, for an arbitrary square-root oracle (`sqrt` is `SqrtPrecomp`, see C17); the
  field-theoretic facts (no curve point has y = 0, class invariants) are in C07.
-/
import GoIpa.Props.C16
import GoIpa.Props.C17
namespace GoIpa.C06
open GoIpa

variable (sqrt : Fp → Option Fp)

theorem zp_ext {n : Nat} (a b : Zp n) (h : a.val = b.val) : a = b := by
  cases a; cases b; simp_all

theorem val_ne_zero {y : Fp} (hy : y ≠ 0) : y.val ≠ 0 := fun h => hy (zp_ext y 0 h)

theorem beNat_lt (b : Bytes) : beNat b < 256 ^ b.length := by
  unfold beNat
  have := C16.leNat_lt b.reverse
  simpa using this

theorem natToBE_beNat (b : Bytes) : natToBE b.length (beNat b) = b := by
  unfold natToBE beNat
  have := C16.natToLE_leNat b.reverse
  simp only [List.length_reverse] at this
  rw [this, List.reverse_reverse]

/-- **Rejects wrong lengths.** -/
theorem decode_rejects_length (b : Bytes) (t : Bool) (h : b.length ≠ 32) :
    decodeCompressed sqrt b t = .error .size := by
  unfold decodeCompressed; simp [h]

/-- **Rejects non-canonical field encodings** (`x ≥ p`, in particular every `x + p` alias). -/
theorem decode_rejects_noncanonical (b : Bytes) (t : Bool) (hl : b.length = 32) (h : P ≤ beNat b) :
    decodeCompressed sqrt b t = .error .nonCanonical := by
  unfold decodeCompressed
  have : ¬ beNat b < P := by omega
  simp [hl, this]

theorem decode_ok_shape (b : Bytes) (p : Pt) (h : decodeCompressed sqrt b false = .ok p) :
    b.length = 32 ∧ beNat b < P ∧ p.X.val = beNat b ∧ p.Z = 1 ∧ subgroupOk p.X = true ∧
      computeY sqrt p.X true = some p.Y := by
  unfold decodeCompressed at h
  by_cases hl : b.length ≠ 32
  · simp [hl] at h
  · simp only [hl, ↓reduceIte] at h
    by_cases hc : beNat b < P
    · simp only [hc, ↓reduceDIte] at h
      cases hy : computeY sqrt ⟨beNat b, hc⟩ true with
      | none => simp [hy] at h
      | some y =>
        simp only [hy] at h
        by_cases hs : subgroupOk ⟨beNat b, hc⟩
        · simp [hs] at h
          subst h
          exact ⟨by simpa using hl, hc, rfl, rfl, hs, hy⟩
        · simp [hs] at h
    · simp [hc] at h

theorem computeY_largest (x y : Fp) (h : computeY sqrt x true = some y) (hy : y.val ≠ 0) :
    Fp.lexLargest y = true :=
  C17.computeY_sign sqrt x y true h hy

/-- **Accepted encodings re-encode to exactly the same bytes**, so no element has two accepted
compressed encodings. (`y = 0` cannot occur for a curve point: C07.y_ne_zero.) -/
theorem decode_encode (b : Bytes) (p : Pt) (h : decodeCompressed sqrt b false = .ok p) (hy : p.Y.val ≠ 0) :
    p.bytes = b := by
  obtain ⟨hl, _, hx, hz, _, hcy⟩ := decode_ok_shape sqrt b p h
  have hlex := computeY_largest sqrt p.X p.Y hcy hy
  unfold Pt.bytes Proj.encode
  simp only [hz, ↓reduceIte, hlex]
  unfold Zp.bytesBE
  rw [hx, ← hl, natToBE_beNat]

theorem accepted_encoding_unique (b b' : Bytes) (p p' : Pt)
    (h : decodeCompressed sqrt b false = .ok p) (h' : decodeCompressed sqrt b' false = .ok p')
    (hx : p.X = p'.X) : b = b' := by
  obtain ⟨hl, _, e, _⟩ := decode_ok_shape sqrt b p h
  obtain ⟨hl', _, e', _⟩ := decode_ok_shape sqrt b' p' h'
  have : beNat b = beNat b' := by rw [← e, ← e', hx]
  rw [← natToBE_beNat b, ← natToBE_beNat b', hl, hl', this]

theorem decodeUnc_rejects_length (b : Bytes) (t : Bool) (h : b.length ≠ 64) :
    decodeUncompressed sqrt b t = .error .size := by
  unfold decodeUncompressed; simp [h]

/-- **The untrusted uncompressed decoder rejects a non-canonical `X`** (the `x + p` alias that the
unrepaired code accepted) -/
theorem decodeUnc_rejects_noncanonical_x (b : Bytes) (hl : b.length = 64) (h : P ≤ beNat (b.take 32)) :
    decodeUncompressed sqrt b false = .error .nonCanonical := by
  unfold decodeUncompressed
  have : ¬ beNat (b.take 32) < P := by omega
  simp [hl, this]

/-- accepted untrusted uncompressed input: `X` canonical, `Y` byte-for-byte the larger root,
subgroup test passed, and the element re-encodes to the input -/
theorem decodeUnc_ok_shape (b : Bytes) (p : Pt) (h : decodeUncompressed sqrt b false = .ok p) :
    b.length = 64 ∧ beNat (b.take 32) < P ∧ p.X.val = beNat (b.take 32) ∧ p.Y.bytesBE = b.drop 32 ∧ p.Z = 1 ∧
      subgroupOk p.X = true ∧ computeY sqrt p.X true = some p.Y := by
  unfold decodeUncompressed at h
  by_cases hl : b.length ≠ 64
  · simp [hl] at h
  · simp only [hl, ↓reduceIte, Bool.false_eq_true] at h
    by_cases hc : beNat (b.take 32) < P
    · simp only [hc, ↓reduceDIte] at h
      cases hy : computeY sqrt ⟨beNat (b.take 32), hc⟩ true with
      | none => simp [hy] at h
      | some y =>
        simp only [hy] at h
        by_cases hyb : y.bytesBE ≠ b.drop 32
        · simp [hyb] at h
        · simp only [hyb, ↓reduceIte] at h
          by_cases hs : subgroupOk ⟨beNat (b.take 32), hc⟩
          · simp [hs] at h
            subst h
            exact ⟨by simpa using hl, hc, rfl, by simpa using hyb, rfl, hs, hy⟩
          · simp [hs] at h
    · simp [hc] at h

theorem decodeUnc_encode (b : Bytes) (p : Pt) (h : decodeUncompressed sqrt b false = .ok p) :
    p.bytesUncompressed = b := by
  obtain ⟨hl, _, hx, hyb, hz, _, _⟩ := decodeUnc_ok_shape sqrt b p h
  have hone : ((1 : Fp)⁻¹) = 1 := by decide +kernel
  have h1 : (1 : Fp).val = 1 := by decide +kernel
  have hmul : ∀ x : Fp, x * 1 = x := by
    intro x
    apply zp_ext
    show (x.val * (1 : Fp).val) % P = x.val
    rw [h1, Nat.mul_one]; exact Nat.mod_eq_of_lt x.lt
  unfold Pt.bytesUncompressed Proj.toAff
  simp only [hz, hone, hmul]
  rw [hyb]
  unfold Zp.bytesBE
  rw [hx]
  have h32 : (b.take 32).length = 32 := by simp [hl]
  have := natToBE_beNat (b.take 32)
  rw [h32] at this
  rw [this, List.take_append_drop]

end GoIpa.C06
