/-
  C07 / C11 — `Equal`, the compressed encoding and `x/y` are complete invariants of the
  Banderwagon class `{(x,y), (-x,-y)}`, for every field and every twisted Edwards curve whose
  parameters `a`, `d` are non-squares (true for Bandersnatch, see `GoIpa.Props.Consts`).
-/
import Mathlib.Tactic.Ring
import Mathlib.Tactic.LinearCombination
import Mathlib.Tactic.FieldSimp
import Mathlib.Tactic.Linarith
import Mathlib.Algebra.Field.Basic
import Mathlib.Algebra.Group.Even
import GoIpa.Model.Element
namespace GoIpa.C07
open GoIpa

variable {F : Type} [Field F] [DecidableEq F]

/-- a valid representation: finite (`Z ≠ 0`) and on the curve -/
def Valid (c : Curve F) (p : Proj F) : Prop := p.Z ≠ 0 ∧ (p.toAff).onCurve c

/-- two representations denote the same Banderwagon element -/
def ClassEq (p q : Proj F) : Prop := p.toAff = q.toAff ∨ p.toAff = (q.toAff).flip

theorem aff_ext (p q : Aff F) (hx : p.x = q.x) (hy : p.y = q.y) : p = q := by
  cases p; cases q; simp_all

omit [DecidableEq F] in
/-- a non-square times a square is never `1`: why `y ≠ 0` on the curve (`n = a`) and why
`1 - d m²`, `1 - a x²` never vanish -/
theorem mul_sq_ne_one {n : F} (hn : ¬IsSquare n) (m : F) : n * (m * m) ≠ 1 := by
  intro h
  have hm : m ≠ 0 := by
    intro hm; rw [hm] at h; simp at h
  exact hn ⟨m⁻¹, by field_simp; linear_combination h⟩

theorem y_ne_zero (c : Curve F) (ha : ¬IsSquare c.a) (p : Aff F) (h : p.onCurve c) : p.y ≠ 0 := by
  intro hy
  unfold Aff.onCurve at h
  rw [hy] at h
  exact mul_sq_ne_one ha p.x (by linear_combination h)

theorem one_sub_d_sq_ne_zero (c : Curve F) (hd : ¬IsSquare c.d) (m : F) : 1 - c.d * m ^ 2 ≠ 0 :=
  fun h => mul_sq_ne_one hd m (by linear_combination -h)

/-- **`x/y` separates classes.** Two curve points with `x₁ y₂ = x₂ y₁` are equal or each
other's `(-x,-y)` image. -/
theorem ratio_injective (c : Curve F) (ha : ¬IsSquare c.a) (hd : ¬IsSquare c.d) (p q : Aff F)
    (hp : p.onCurve c) (hq : q.onCurve c) (hr : p.x * q.y = q.x * p.y) : q = p ∨ q = p.flip := by
  have hy0 : p.y ≠ 0 := y_ne_zero c ha p hp
  unfold Aff.onCurve at hp hq
  have key : (q.y * q.y - p.y * p.y) * (1 - c.d * (p.x * q.y) ^ 2) = 0 := by
    linear_combination (p.y ^ 2) * hq - (q.y ^ 2) * hp - (c.d * q.y ^ 2 - c.a) * (p.x * q.y + q.x * p.y) * hr
  have hyy := sub_eq_zero.mp ((mul_eq_zero.mp key).resolve_right (one_sub_d_sq_ne_zero c hd _))
  rcases mul_self_eq_mul_self_iff.mp hyy with hy | hy
  · rw [hy] at hr
    exact Or.inl (aff_ext _ _ (mul_right_cancel₀ hy0 hr).symm hy)
  · rw [hy, mul_neg, ← neg_mul] at hr
    exact Or.inr (aff_ext _ _ (mul_right_cancel₀ hy0 hr).symm hy)

/-- both members of a class lie on the curve together -/
theorem flip_onCurve (c : Curve F) (p : Aff F) (h : p.onCurve c) : p.flip.onCurve c := by
  unfold Aff.onCurve Aff.flip at *
  simp only
  linear_combination h

/-- the cross-multiplied test of `Element.Equal` on affine points -/
theorem cross_iff_class (c : Curve F) (ha : ¬IsSquare c.a) (hd : ¬IsSquare c.d) (p q : Aff F)
    (hp : p.onCurve c) (hq : q.onCurve c) : p.x * q.y = p.y * q.x ↔ (p = q ∨ p = q.flip) := by
  constructor
  · intro h
    rcases ratio_injective c ha hd q p hq hp (by linear_combination -h) with e | e
    · exact Or.inl e
    · exact Or.inr e
  · rintro (e | e)
    · subst e; ring
    · rw [e]; simp [Aff.flip]; ring

theorem Valid.Y_ne_zero {c : Curve F} (ha : ¬IsSquare c.a) {p : Proj F} (hp : Valid c p) : p.Y ≠ 0 := by
  intro h
  exact y_ne_zero c ha _ hp.2 (by simp [Proj.toAff, h])

/-- away from `Y = 0`, `Element.Equal` is the cross-multiplied test -/
theorem equalE_iff_cross {p q : Proj F} (hp : p.Y ≠ 0) (hq : q.Y ≠ 0) :
    Proj.equalE p q = true ↔ p.X * q.Y = p.Y * q.X := by
  simp [Proj.equalE, hp, hq]

/-- the cross-multiplied test does not see the projective scaling -/
theorem cross_toAff {p q : Proj F} (hp : p.Z ≠ 0) (hq : q.Z ≠ 0) :
    p.toAff.x * q.toAff.y = p.toAff.y * q.toAff.x ↔ p.X * q.Y = p.Y * q.X := by
  simp only [Proj.toAff]
  constructor
  · intro h
    field_simp at h
    linear_combination h
  · intro h
    field_simp
    linear_combination h

/-- **`Equal` decides the class.** For valid representations (any projective scaling, either
member of the class) `Element.Equal` is true exactly for representations of the same element. -/
theorem equal_iff_class (c : Curve F) (ha : ¬IsSquare c.a) (hd : ¬IsSquare c.d) (p q : Proj F)
    (hp : Valid c p) (hq : Valid c q) : Proj.equalE p q = true ↔ ClassEq p q := by
  rw [equalE_iff_cross (hp.Y_ne_zero ha) (hq.Y_ne_zero ha), ClassEq, ← cross_iff_class c ha hd _ _ hp.2 hq.2,
    cross_toAff hp.1 hq.1]

/-- **`Equal` is never true when one side is the all-zero (uninitialised) value.** -/
theorem equal_zero_false (p : Proj F) : Proj.equalE (⟨0, 0, 0⟩ : Proj F) p = false ∧
    Proj.equalE p (⟨0, 0, 0⟩ : Proj F) = false := by
  unfold Proj.equalE
  constructor
  · simp
  · by_cases h : p.X = 0 ∧ p.Y = 0 <;> simp [h]

/-- `ClassEq` is an equivalence relation -/
theorem classEq_refl (p : Proj F) : ClassEq p p := Or.inl rfl

theorem flip_flip (p : Aff F) : p.flip.flip = p := by
  cases p; simp [Aff.flip]

theorem classEq_symm {p q : Proj F} (h : ClassEq p q) : ClassEq q p := by
  rcases h with h | h
  · exact Or.inl h.symm
  · right; rw [h, flip_flip]

theorem classEq_trans {p q r : Proj F} (h : ClassEq p q) (h' : ClassEq q r) : ClassEq p r := by
  rcases h with h | h <;> rcases h' with h' | h'
  · exact Or.inl (h.trans h')
  · exact Or.inr (h.trans h')
  · right; rw [h, h']
  · left; rw [h, h', flip_flip]

/-- **`Equal` is reflexive, symmetric and transitive on valid elements.** -/
theorem equal_refl (c : Curve F) (ha : ¬IsSquare c.a) (hd : ¬IsSquare c.d) (p : Proj F) (hp : Valid c p) :
    Proj.equalE p p = true := (equal_iff_class c ha hd p p hp hp).mpr (classEq_refl p)

theorem equal_symm (c : Curve F) (ha : ¬IsSquare c.a) (hd : ¬IsSquare c.d) (p q : Proj F)
    (hp : Valid c p) (hq : Valid c q) (h : Proj.equalE p q = true) : Proj.equalE q p = true :=
  (equal_iff_class c ha hd q p hq hp).mpr (classEq_symm ((equal_iff_class c ha hd p q hp hq).mp h))

theorem equal_trans (c : Curve F) (ha : ¬IsSquare c.a) (hd : ¬IsSquare c.d) (p q r : Proj F)
    (hp : Valid c p) (hq : Valid c q) (hr : Valid c r)
    (h : Proj.equalE p q = true) (h' : Proj.equalE q r = true) : Proj.equalE p r = true :=
  (equal_iff_class c ha hd p r hp hr).mpr
    (classEq_trans ((equal_iff_class c ha hd p q hp hq).mp h) ((equal_iff_class c ha hd q r hq hr).mp h'))

/-- projective rescaling and the `(-x,-y)` image do not change the class -/
theorem classEq_scale (p : Proj F) (l : F) (hl : l ≠ 0) (hz : p.Z ≠ 0) :
    ClassEq (⟨l * p.X, l * p.Y, l * p.Z⟩ : Proj F) p := by
  left
  simp only [Proj.toAff]
  congr 1 <;> field_simp

theorem classEq_flip (p : Proj F) : ClassEq (⟨-p.X, -p.Y, p.Z⟩ : Proj F) p := by
  right
  simp [Proj.toAff, Aff.flip]

/-! ### the compressed encoding -/

section encode
variable (lexLargest : F → Bool) (enc : F → Bytes)

/-- the canonical `x` of a class: `x` if `y` is the larger root, else `-x` -/
def canonX (p : Aff F) : F := if lexLargest p.y then p.x else -p.x

/-- the member of the class `{p, p.flip}` that the encoding writes: the one with the larger `y` -/
def canon (p : Aff F) : Aff F := if lexLargest p.y then p else p.flip

theorem canon_x (p : Aff F) : (canon lexLargest p).x = canonX lexLargest p := by
  unfold canon canonX; split <;> rfl

theorem canon_class (p : Aff F) : canon lexLargest p = p ∨ canon lexLargest p = p.flip := by
  unfold canon; split
  · exact Or.inl rfl
  · exact Or.inr rfl

theorem canon_onCurve (c : Curve F) (p : Aff F) (h : p.onCurve c) : (canon lexLargest p).onCurve c := by
  rcases canon_class lexLargest p with e | e <;> rw [e]
  · exact h
  · exact flip_onCurve c p h

variable {lexLargest} in
theorem lex_canon_y (hlex : ∀ y : F, y ≠ 0 → lexLargest (-y) = !lexLargest y) {p : Aff F} (hy : p.y ≠ 0) :
    lexLargest (canon lexLargest p).y = true := by
  unfold canon
  by_cases h : lexLargest p.y = true
  · rw [if_pos h]; exact h
  · rw [if_neg h]
    show lexLargest (-p.y) = true
    rw [hlex _ hy]; simpa using h

variable {lexLargest} in
theorem canon_flip (hlex : ∀ y : F, y ≠ 0 → lexLargest (-y) = !lexLargest y) {p : Aff F} (hy : p.y ≠ 0) :
    canon lexLargest p.flip = canon lexLargest p := by
  unfold canon
  have : lexLargest p.flip.y = !lexLargest p.y := hlex _ hy
  rw [this, flip_flip]
  cases lexLargest p.y <;> rfl

variable {lexLargest} in
/-- **a curve point is determined by its `x` and the sign of its `y`** -/
theorem eq_of_x_eq_of_lex (c : Curve F) (hd : ¬IsSquare c.d)
    (hlex : ∀ y : F, y ≠ 0 → lexLargest (-y) = !lexLargest y) {p q : Aff F}
    (hp : p.onCurve c) (hq : q.onCurve c) (hqy : q.y ≠ 0) (hx : p.x = q.x)
    (hl : lexLargest p.y = lexLargest q.y) : p = q := by
  unfold Aff.onCurve at hp hq
  rw [hx] at hp
  have hyy : (p.y * p.y - q.y * q.y) * (1 - c.d * q.x ^ 2) = 0 := by linear_combination hp - hq
  have := sub_eq_zero.mp ((mul_eq_zero.mp hyy).resolve_right (one_sub_d_sq_ne_zero c hd _))
  rcases mul_self_eq_mul_self_iff.mp this with hy | hy
  · exact aff_ext _ _ hx hy
  · rw [hy, hlex _ hqy] at hl
    cases h : lexLargest q.y <;> rw [h] at hl <;> cases hl

theorem encode_eq (p : Proj F) : Proj.encode lexLargest enc p = enc (canonX lexLargest p.toAff) := by
  unfold Proj.encode canonX
  by_cases h : p.Z = 1
  · by_cases hl : lexLargest p.Y <;> simp [h, hl, Proj.toAff]
  · by_cases hl : lexLargest p.toAff.y <;> simp [h, hl]

/-- **Equal bytes iff equal elements.** With a sign predicate that is exchanged by negation on
non-zero values and an injective field encoder, two valid representations have the same
compressed encoding exactly when they denote the same element. -/
theorem bytes_iff_class (c : Curve F) (ha : ¬IsSquare c.a) (hd : ¬IsSquare c.d)
    (hlex : ∀ y : F, y ≠ 0 → lexLargest (-y) = !lexLargest y) (henc : Function.Injective enc)
    (p q : Proj F) (hp : Valid c p) (hq : Valid c q) :
    Proj.encode lexLargest enc p = Proj.encode lexLargest enc q ↔ ClassEq p q := by
  rw [encode_eq, encode_eq, henc.eq_iff, ← canon_x, ← canon_x]
  have hpy := y_ne_zero c ha _ hp.2
  have hqy := y_ne_zero c ha _ hq.2
  constructor
  · intro hx
    -- same `x`, both `y` the larger root: the canonical members coincide
    have e : canon lexLargest p.toAff = canon lexLargest q.toAff :=
      eq_of_x_eq_of_lex c hd hlex (canon_onCurve _ c _ hp.2) (canon_onCurve _ c _ hq.2)
        (y_ne_zero c ha _ (canon_onCurve _ c _ hq.2)) hx
        ((lex_canon_y hlex hpy).trans (lex_canon_y hlex hqy).symm)
    unfold ClassEq
    rcases canon_class lexLargest p.toAff with e1 | e1 <;> rcases canon_class lexLargest q.toAff with e2 | e2 <;>
      rw [e1, e2] at e
    · exact Or.inl e
    · exact Or.inr e
    · right; rw [← e, flip_flip]
    · left; rw [← flip_flip p.toAff, e, flip_flip]
  · rintro (e | e)
    · rw [e]
    · rw [e, canon_flip hlex hqy]

end encode

/-! ### C11: map to the base field -/

/-- **`x/y` is a complete class invariant**: equal for class-equal representations (any
scaling, either member) and different for different elements. -/
theorem map_iff_class (c : Curve F) (ha : ¬IsSquare c.a) (hd : ¬IsSquare c.d) (p q : Proj F)
    (hp : Valid c p) (hq : Valid c q) : p.mapToBase = q.mapToBase ↔ ClassEq p q := by
  have hpY := hp.Y_ne_zero ha
  have hqY := hq.Y_ne_zero ha
  rw [← equal_iff_class c ha hd p q hp hq, equalE_iff_cross hpY hqY, Proj.mapToBase, Proj.mapToBase,
    ← div_eq_mul_inv, ← div_eq_mul_inv, div_eq_div_iff hpY hqY, mul_comm q.X]

end GoIpa.C07
