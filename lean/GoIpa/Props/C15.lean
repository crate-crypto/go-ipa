/-
  C15 — scalar-field arithmetic agrees with integer arithmetic modulo r.
  Limb-level theorems about the model of the portable Go code (`_addGeneric`, `_subGeneric`,
  `_negGeneric`, `_doubleGeneric`, `_reduceGeneric`): for all limb values, carries and borrows.
  Each routine is a composition of the four-limb chains `add4` / `sub4` of `Lemmas/Limbs4` with the
  modulus `qL`; the proofs are arithmetic on the values those chains are known to compute.
-/
import GoIpa.Lemmas.Limbs4
namespace GoIpa.C15
open GoIpa GoIpa.Limbs

theorem qInvNeg_spec : (q0 * qInvNeg) % W = W - 1 := by decide

/-- **`z < q` test.** The nested lexicographic comparison of the code decides `val z < r`. -/
theorem ltQ_iff (z : L4) (hz : z.ok) : ltQ z ↔ z.val < R := by
  rw [← qL_val]
  exact (val_lt_iff hz qL_ok).symm

/-- **Conditional subtraction.** For every 4-limb value below `2r`, `_reduceGeneric` returns the
fully reduced representative. -/
theorem reduceG_correct (z : L4) (hz : z.ok) (h2r : z.val < 2 * R) :
    (reduceG z).ok ∧ (reduceG z).val = z.val % R ∧ (reduceG z).val < R := by
  unfold reduceG
  by_cases hlt : ltQ z
  · rw [if_pos hlt]
    have := (ltQ_iff z hz).mp hlt
    exact ⟨hz, (Nat.mod_eq_of_lt this).symm, this⟩
  · rw [if_neg hlt, subQ_eq]
    have hge : R ≤ z.val := Nat.le_of_not_lt ((ltQ_iff z hz).not.mp hlt)
    have hv := sub4_of_le hz qL_ok (qL_val ▸ hge)
    rw [qL_val] at hv
    rw [Nat.mod_eq_sub_mod hge, Nat.mod_eq_of_lt (by omega), hv]
    exact ⟨(sub4_spec hz qL_ok).1, rfl, by omega⟩

/-- **Addition.** For all reduced operands (every limb value, every carry pattern),
`_addGeneric` returns the fully reduced sum modulo `r`. -/
theorem addG_correct (x y : L4) (hx : x.ok) (hy : y.ok) (hxr : x.val < R) (hyr : y.val < R) :
    (addG x y).ok ∧ (addG x y).val = (x.val + y.val) % R ∧ (addG x y).val < R := by
  rw [addG_eq]
  have hval := add4_of_lt hx hy (by have := two_R_lt; omega)
  have := reduceG_correct (add4 x y).1 (add4_spec hx hy).1 (by omega)
  rw [hval] at this
  exact this

/-- **Doubling.** -/
theorem doubleG_correct (x : L4) (hx : x.ok) (hxr : x.val < R) :
    (doubleG x).ok ∧ (doubleG x).val = (2 * x.val) % R ∧ (doubleG x).val < R := by
  have := addG_correct x x hx hx hxr hxr
  rw [show x.val + x.val = 2 * x.val by omega] at this
  exact this

/-- **Subtraction.** `_subGeneric` returns `x − y mod r`, adding `q` back exactly when the
4-limb subtraction borrows. -/
theorem subG_correct (x y : L4) (hx : x.ok) (hy : y.ok) (hxr : x.val < R) (hyr : y.val < R) :
    (subG x y).ok ∧ (subG x y).val = (x.val + R - y.val) % R ∧ (subG x y).val < R := by
  have dok := (sub4_spec hx hy).1
  rw [subG_eq, sub4_borrow hx hy]
  by_cases h : x.val < y.val
  · -- borrow: the difference is `x − y + 2^256`, and adding `q` wraps it back
    have e := sub4_of_lt hx hy h
    have hv := add4_val dok qL_ok
    rw [qL_val, show (sub4 x y).1.val + R = x.val + R - y.val + W * W * W * W by omega, Nat.add_mod_right,
      Nat.mod_eq_of_lt (by have := R_lt; omega)] at hv
    rw [if_pos h, if_pos Nat.one_ne_zero, hv, Nat.mod_eq_of_lt (by omega)]
    exact ⟨(add4_spec dok qL_ok).1, rfl, by omega⟩
  · have e := sub4_of_le hx hy (Nat.le_of_not_lt h)
    rw [if_neg h, if_neg (fun h => h rfl), e,
      show x.val + R - y.val = x.val - y.val + R by omega, Nat.add_mod_right, Nat.mod_eq_of_lt (by omega)]
    exact ⟨dok, rfl, by omega⟩

/-- **Negation.** `_negGeneric` returns `r − x` (and `0` for `0`). -/
theorem negG_correct (x : L4) (hx : x.ok) (hxr : x.val < R) :
    (negG x).ok ∧ (negG x).val = (R - x.val) % R ∧ (negG x).val < R := by
  rw [negG_eq]
  by_cases hz : x.l0 = 0 ∧ x.l1 = 0 ∧ x.l2 = 0 ∧ x.l3 = 0
  · have : x.val = 0 := by unfold L4.val; simp [hz.1, hz.2.1, hz.2.2.1, hz.2.2.2]
    rw [if_pos hz, this]
    exact ⟨by unfold L4.ok W; simp, by simp [L4.val], by unfold L4.val R; simp⟩
  · have hpos : 0 < x.val := by
      unfold L4.val W
      by_contra h
      apply hz
      omega
    have e := sub4_of_le qL_ok hx (by rw [qL_val]; omega)
    rw [qL_val] at e
    rw [if_neg hz, e, Nat.mod_eq_of_lt (by omega)]
    exact ⟨(sub4_spec qL_ok hx).1, rfl, by omega⟩

end GoIpa.C15
