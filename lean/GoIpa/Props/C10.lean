/-
  C10 — proof deserialisation is independent of how a well-behaved reader chunks the stream,
  and accepts exactly the well-formed 576-byte strings.
-/
import Mathlib.Tactic.Ring
import GoIpa.Model.Serde
namespace GoIpa.C10
open GoIpa

/-- a reader without injected I/O failure -/
def WellBehaved (r : Reader) : Prop := r.failAfter = none

/-- the chunk limit of the next read -/
def nextLim (r : Reader) (want : Nat) : Nat :=
  match r.chunks with | [] => want | c :: _ => min want (max c 1)

/-- a well-behaved reader never takes the injected-failure branch of `read` -/
theorem read_wb (r : Reader) (want : Nat) (hw : WellBehaved r) :
    r.read want = Reader.read.go r want := by
  unfold Reader.read
  rw [show r.failAfter = none from hw]

/-- `read` on an exhausted stream: no bytes, EOF, reader unchanged -/
theorem read_nil (r : Reader) (want : Nat) (hw : WellBehaved r) (he : r.data = []) :
    r.read want = ([], some .eof, r) := by
  rw [read_wb r want hw, Reader.read.go, he]
  rfl

/-- `read` on a non-exhausted stream: the next `nextLim r want` bytes (or all that is left) -/
theorem read_eq (r : Reader) (want : Nat) (hw : WellBehaved r) (hne : r.data ≠ []) :
    r.read want = (r.data.take (nextLim r want),
      (if (r.data.drop (nextLim r want)).isEmpty && r.eofWithData then some IoErr.eof else none),
      { r with data := r.data.drop (nextLim r want), chunks := r.chunks.drop 1,
               delivered := r.delivered + (r.data.take (nextLim r want)).length }) := by
  rw [read_wb r want hw, Reader.read.go, if_neg (by simpa using hne)]
  rfl

theorem read_spec (r : Reader) (want : Nat) (hw : WellBehaved r) (hwant : 0 < want) (hne : r.data ≠ []) :
    ∃ k, 0 < k ∧ k ≤ want ∧ k ≤ r.data.length ∧ (r.read want).1 = r.data.take k ∧
      (r.read want).2.2.data = r.data.drop k ∧ WellBehaved (r.read want).2.2 ∧
      (r.read want).2.2.eofWithData = r.eofWithData ∧
      ((r.read want).2.1 = none ∨ ((r.read want).2.1 = some .eof ∧ r.data.drop k = [])) := by
  have hlen : 0 < r.data.length := List.length_pos_iff.mpr hne
  rw [read_eq r want hw hne]
  have hl1 : 0 < nextLim r want ∧ nextLim r want ≤ want := by
    unfold nextLim; cases r.chunks with
    | nil => exact ⟨hwant, le_refl _⟩
    | cons c _ => simp only; omega
  have ht : List.take (nextLim r want) r.data = List.take (min (nextLim r want) r.data.length) r.data := by
    rw [List.take_eq_take_iff]; omega
  have hd : List.drop (nextLim r want) r.data = List.drop (min (nextLim r want) r.data.length) r.data := by
    rw [List.drop_eq_drop_iff]; omega
  refine ⟨min (nextLim r want) r.data.length, by omega, by omega, by omega, ht, hd, hw, rfl, ?_⟩
  simp only
  rw [← hd]
  by_cases h : (List.drop (nextLim r want) r.data).isEmpty && r.eofWithData
  · right
    simp only [h, ↓reduceIte, true_and]
    simp only [Bool.and_eq_true, List.isEmpty_iff] at h
    exact h.1
  · left; simp only [h, Bool.false_eq_true, ↓reduceIte]

/-- **`io.ReadFull` over any well-behaved reader** returns exactly the next `want` bytes when the
stream still holds that many — whatever the chunking and whether EOF arrives together with the
last bytes or separately — and fails when it does not. -/
theorem readFull_spec : ∀ (fuel : Nat) (r : Reader) (want : Nat) (acc : Bytes), WellBehaved r →
    want - acc.length < fuel → acc.length ≤ want →
    (want ≤ acc.length + r.data.length →
      ∃ r', readFull fuel r want acc = (.ok (acc ++ r.data.take (want - acc.length)), r') ∧
        r'.data = r.data.drop (want - acc.length) ∧ WellBehaved r' ∧ r'.eofWithData = r.eofWithData) ∧
    (acc.length + r.data.length < want →
      ∃ e r', readFull fuel r want acc = (.error e, r') ∧ (acc.length + r.data.length = 0 → e = .eof) ∧
        (0 < acc.length + r.data.length → e = .unexpectedEOF)) := by
  intro fuel
  induction fuel with
  | zero => intro r want acc _ h _; omega
  | succ fuel ih =>
    intro r want acc hw hf hacc
    unfold readFull
    by_cases hdone : acc.length ≥ want
    · have : want - acc.length = 0 := by omega
      simp only [hdone, ↓reduceIte, this, List.take_zero, List.append_nil, List.drop_zero]
      exact ⟨fun _ => ⟨r, rfl, rfl, hw, rfl⟩, fun h => by omega⟩
    · simp only [hdone, ↓reduceIte]
      by_cases hne : r.data = []
      · -- stream exhausted: the read reports EOF
        rw [read_nil r _ hw hne]
        simp only [List.append_nil, hdone, ↓reduceIte]
        refine ⟨fun h => by rw [hne] at h; simp at h; omega, fun _ => ?_⟩
        by_cases hpos : acc.length > 0
        · simp only [hpos, and_self, ↓reduceIte]
          exact ⟨_, _, rfl, fun h => by omega, fun _ => rfl⟩
        · simp only [hpos, false_and, ↓reduceIte]
          exact ⟨_, _, rfl, fun _ => rfl, fun h => by rw [hne] at h; simp at h; omega⟩
      · obtain ⟨k, hk0, hkw, hkd, hout, hdata, hwb, heof, herr⟩ :=
          read_spec r (want - acc.length) hw (by omega) hne
        rcases hr : r.read (want - acc.length) with ⟨out, err, r'⟩
        rw [hr] at hout hdata hwb heof herr
        simp only at hout hdata hwb heof herr ⊢
        have hlen : (acc ++ out).length = acc.length + k := by
          rw [hout]; simp; omega
        have key := ih r' want (acc ++ out) hwb (by omega) (by omega)
        have hd : r'.data.length = r.data.length - k := by rw [hdata]; simp
        rcases herr with he | ⟨he, hnil⟩
        · rw [he]
          simp only
          constructor
          · intro hge
            obtain ⟨r'', h1, h2, h3, h4⟩ := key.1 (by omega)
            have e : want - acc.length = k + (want - (acc.length + k)) := by
              rw [Nat.sub_add_eq, Nat.add_sub_cancel' hkw]
            refine ⟨r'', ?_, ?_, h3, by rw [h4, heof]⟩
            · rw [h1, hlen, hout, hdata, List.append_assoc, e, List.take_add]
            · rw [h2, hdata, hlen, List.drop_drop, e]
          · intro hlt
            obtain ⟨e, r'', h1, h2, h3⟩ := key.2 (by omega)
            exact ⟨e, r'', h1, fun h => by omega, fun _ => h3 (by omega)⟩
        · rw [he]
          simp only
          have hdl : r.data.length = k := by
            have := congrArg List.length hnil; simp at this; omega
          by_cases hfull : (acc ++ out).length ≥ want
          · simp only [hfull, ↓reduceIte]
            have hk : want - acc.length = k := by omega
            refine ⟨fun _ => ⟨r', ?_, ?_, hwb, heof⟩, fun h => by omega⟩
            · rw [hk, hout]
            · rw [hk, hdata]
          · simp only [hfull, ↓reduceIte]
            refine ⟨fun h => by omega, fun _ => ?_⟩
            have hpos : (acc ++ out).length > 0 := by omega
            simp only [hpos, and_self, ↓reduceIte]
            exact ⟨_, _, rfl, fun h => by omega, fun _ => rfl⟩

/-! ### the pure (one-shot) readers: functions of the byte string alone -/

def takeField (b : Bytes) (want : Nat) : Except IoErr (Bytes × Bytes) :=
  if want ≤ b.length then .ok (b.take want, b.drop want)
  else .error (if b.length = 0 then .eof else .unexpectedEOF)

def pReadPoint (sqrt : Fp → Option Fp) (b : Bytes) : Except RdErr (Pt × Bytes) :=
  match takeField b 32 with
  | .error e => .error (.io e)
  | .ok (f, rest) => match decodeCompressed sqrt f with
    | .ok p => .ok (p, rest)
    | .error e => .error (.point e)

def pReadScalar (b : Bytes) : Except RdErr (Fr × Bytes) :=
  match takeField b 32 with
  | .error e => .error (.io e)
  | .ok (f, rest) => match Fr.setBytesLECanonical f with
    | some s => .ok (s, rest)
    | none => .error .scalar

def pReadPoints (sqrt : Fp → Option Fp) : Nat → Bytes → Except RdErr (List Pt × Bytes)
  | 0, b => .ok ([], b)
  | n + 1, b => match pReadPoint sqrt b with
    | .error e => .error e
    | .ok (p, b) => match pReadPoints sqrt n b with
      | .error e => .error e
      | .ok (ps, b) => .ok (p :: ps, b)

def pIpaRead (sqrt : Fp → Option Fp) (b : Bytes) : Except RdErr (IpaProof Fr Pt × Bytes) :=
  match pReadPoints sqrt 8 b with
  | .error e => .error e
  | .ok (L, b) => match pReadPoints sqrt 8 b with
    | .error e => .error e
    | .ok (Rr, b) => match pReadScalar b with
      | .error e => .error e
      | .ok (a, b) => .ok (⟨L, Rr, a⟩, b)

/-- the one-shot specification of `MultiProof.Read` -/
def pMpRead (sqrt : Fp → Option Fp) (b : Bytes) : Except RdErr (MultiProof Fr Pt) :=
  match pReadPoint sqrt b with
  | .error e => .error e
  | .ok (D, b) => match pIpaRead sqrt b with
    | .error e => .error e
    | .ok (ip, b) => if b.length = 0 then .ok ⟨ip, D⟩ else .error .trailing

/-- the result of a scripted read, compared with the pure reader: same value, and the reader
is left well-behaved on the rest of the stream -/
def Agrees {α : Type} (res : Except RdErr α × Reader) (pure : Except RdErr (α × Bytes)) : Prop :=
  match res.1, pure with
  | .ok v, .ok (v', rest) => v = v' ∧ res.2.data = rest ∧ WellBehaved res.2
  | .error e, .error e' => e = e'
  | _, _ => False

/-- **Sequencing (`bind`).** Whatever is computed next from a scripted result `res` and from the
pure result `pure` (`motive` is the relation to be shown between the two continuations, with the
results abstracted), if `res` agrees with `pure` it is enough to look at the two agreeing shapes:
both failed with the same error, or both succeeded with the same value and the reader is
well-behaved on the rest.  This is the only place where the four combinations are examined.

It is stated with a `motive` rather than with a literal `match … with` in the conclusion because
the `match`es inside `readPoints`, `ipaRead`, … are compiled to their own auxiliary matchers: a
`match` written here would be a different constant, which the elaborator does not unfold.
Use: after `unfold`ing the two functions, `refine h.bind (fun _ _ => rfl) fun v r hw => ?_` (the
motive is found by abstracting `res` and `pure` in the goal; the error case holds by computation),
then `dsimp only` to reduce the two `match`es on the constructors now known. -/
@[elab_as_elim]
theorem Agrees.bind {α : Type}
    {motive : Except RdErr α × Reader → Except RdErr (α × Bytes) → Prop}
    {res : Except RdErr α × Reader} {pure : Except RdErr (α × Bytes)} (h : Agrees res pure)
    (error : ∀ e r, motive (.error e, r) (.error e))
    (ok : ∀ v r, WellBehaved r → motive (.ok v, r) (.ok (v, r.data))) :
    motive res pure := by
  obtain ⟨x, r⟩ := res
  cases x with
  | error e =>
    cases pure with
    | error e' =>
      have he : e = e' := h
      rw [← he]
      exact error e r
    | ok p => exact h.elim
  | ok v =>
    cases pure with
    | error e' => exact h.elim
    | ok p =>
      obtain ⟨v', b⟩ := p
      obtain ⟨hv, hb, hw⟩ := h
      rw [← hv, ← hb]
      exact ok v r hw

/-- a successful final step that leaves the reader alone -/
theorem Agrees.ret {α : Type} (v : α) (r : Reader) (hw : WellBehaved r) :
    Agrees (.ok v, r) (.ok (v, r.data)) :=
  ⟨rfl, rfl, hw⟩

/-- **`Reader.full` against `takeField`, in the same sequencing form.** On a well-behaved reader
`r.full want` fails exactly when `takeField r.data want` does, with the same error (`eof` on an
empty stream, `unexpectedEOF` on a short one); otherwise both return the first `want` bytes and
the reader is left well-behaved on the rest. -/
@[elab_as_elim]
theorem full_bind {motive : Except IoErr Bytes × Reader → Except IoErr (Bytes × Bytes) → Prop}
    (r : Reader) (hw : WellBehaved r) (want : Nat)
    (error : ∀ e r', e = (if r.data.length = 0 then .eof else .unexpectedEOF) →
      motive (.error e, r') (.error e))
    (ok : ∀ r', WellBehaved r' → want ≤ r.data.length →
      motive (.ok (r.data.take want), r') (.ok (r.data.take want, r'.data))) :
    motive (r.full want) (takeField r.data want) := by
  unfold Reader.full takeField
  have h := readFull_spec (want + 1) r want [] hw (by simp) (by simp)
  by_cases hle : want ≤ r.data.length
  · obtain ⟨r', h1, h2, h3, _⟩ := h.1 (by simpa using hle)
    simp only [List.length_nil, Nat.sub_zero, List.nil_append] at h1 h2
    rw [h1, if_pos hle, ← h2]
    exact ok r' h3 hle
  · obtain ⟨e, r', h1, h2, h3⟩ := h.2 (by simp; omega)
    have he : e = (if r.data.length = 0 then IoErr.eof else IoErr.unexpectedEOF) := by
      by_cases h0 : r.data.length = 0
      · rw [if_pos h0]
        exact h2 (by simpa using h0)
      · rw [if_neg h0]
        exact h3 (by simp; omega)
    rw [h1, if_neg hle, ← he]
    exact error e r' he

theorem readPoint_agrees (sqrt : Fp → Option Fp) (r : Reader) (hw : WellBehaved r) :
    Agrees (readPoint sqrt r) (pReadPoint sqrt r.data) := by
  unfold readPoint pReadPoint
  refine full_bind r hw 32 (fun _ _ _ => rfl) fun r' hw' _ => ?_
  dsimp only
  cases decodeCompressed sqrt (r.data.take 32) with
  | ok p => exact Agrees.ret p r' hw'
  | error e => exact rfl

theorem readScalar_agrees (r : Reader) (hw : WellBehaved r) :
    Agrees (readScalar r) (pReadScalar r.data) := by
  unfold readScalar pReadScalar
  refine full_bind r hw 32 (fun _ _ _ => rfl) fun r' hw' _ => ?_
  dsimp only
  cases Fr.setBytesLECanonical (r.data.take 32) with
  | some s => exact Agrees.ret s r' hw'
  | none => exact rfl

theorem readPoints_agrees (sqrt : Fp → Option Fp) : ∀ (n : Nat) (r : Reader), WellBehaved r →
    Agrees (readPoints sqrt n r) (pReadPoints sqrt n r.data)
  | 0, r, hw => Agrees.ret [] r hw
  | n + 1, r, hw => by
    unfold readPoints pReadPoints
    refine (readPoint_agrees sqrt r hw).bind (fun _ _ => rfl) fun p r1 hw1 => ?_
    dsimp only
    refine (readPoints_agrees sqrt n r1 hw1).bind (fun _ _ => rfl) fun ps r2 hw2 => ?_
    exact Agrees.ret (p :: ps) r2 hw2

theorem ipaRead_agrees (sqrt : Fp → Option Fp) (r : Reader) (hw : WellBehaved r) :
    Agrees (ipaRead sqrt r) (pIpaRead sqrt r.data) := by
  unfold ipaRead pIpaRead
  refine (readPoints_agrees sqrt 8 r hw).bind (fun _ _ => rfl) fun L r1 hw1 => ?_
  dsimp only
  refine (readPoints_agrees sqrt 8 r1 hw1).bind (fun _ _ => rfl) fun Rr r2 hw2 => ?_
  dsimp only
  refine (readScalar_agrees r2 hw2).bind (fun _ _ => rfl) fun a r3 hw3 => ?_
  exact Agrees.ret (⟨L, Rr, a⟩ : IpaProof Fr Pt) r3 hw3

/-- **Chunking invariance.** For every well-behaved reader — any chunk sizes, EOF reported with
the last data or separately — `MultiProof.Read` returns exactly what the one-shot specification
returns on the reader's byte stream: same proof, or the same class of error. -/
theorem mpRead_eq_pure (sqrt : Fp → Option Fp) (r : Reader) (hw : WellBehaved r) :
    mpRead sqrt r = pMpRead sqrt r.data := by
  unfold mpRead pMpRead
  refine (readPoint_agrees sqrt r hw).bind (fun _ _ => rfl) fun D r1 hw1 => ?_
  dsimp only
  refine (ipaRead_agrees sqrt r1 hw1).bind (fun _ _ => rfl) fun ip r2 hw2 => ?_
  dsimp only
  -- the end-of-stream probe: only a clean EOF, i.e. an empty rest, is accepted
  refine full_bind r2 hw2 1 (fun e r3 he => ?_) fun r3 _ hle => ?_
  · -- nothing could be read: the error is `eof` exactly when nothing is left
    rw [he]
    by_cases h0 : r2.data.length = 0
    · rw [if_pos h0, if_pos h0]
    · rw [if_neg h0, if_neg h0]
  · -- a byte could be read: trailing data
    rw [if_neg (by omega)]

/-- corollary: two well-behaved readers over the same bytes give the same outcome -/
theorem mpRead_chunking_invariant (sqrt : Fp → Option Fp) (r r' : Reader) (hw : WellBehaved r) (hw' : WellBehaved r')
    (hd : r.data = r'.data) : mpRead sqrt r = mpRead sqrt r' := by
  rw [mpRead_eq_pure sqrt r hw, mpRead_eq_pure sqrt r' hw', hd]

/-- `IPAProof.Read` consumes exactly 544 bytes when it succeeds -/
theorem takeField_length (b f rest : Bytes) (want : Nat) (h : takeField b want = .ok (f, rest)) :
    b.length = want + rest.length ∧ f.length = want := by
  unfold takeField at h
  split at h
  · cases h; simp; omega
  · cases h

/-- **Write fault.** A writer failing at any of the 18 write calls makes `Write` fail. -/
theorem write_fault (chunks : List Bytes) (j : Nat) (hj : j < chunks.length) :
    writeChunks chunks (some j) = .error () := by
  simp [writeChunks, hj]

theorem write_ok (chunks : List Bytes) : writeChunks chunks none = .ok chunks.flatten := rfl

theorem mp_chunks_length (p : MultiProof Fr Pt) (hL : p.ipa.L.length = 8) (hR : p.ipa.R.length = 8) :
    p.chunks.length = 18 := by
  simp [MultiProof.chunks, hL, hR]

end GoIpa.C10
