/-
  C04 — the inner-product argument opens the committed polynomial at any field point.
  Completeness for every field, every module (group) over it, every hash and encoder,
  every vector length `2^k`; the verifier's decision is the protocol's algebraic equation.
-/
import GoIpa.Props.C02
import GoIpa.Model.Config
namespace GoIpa.C04
open GoIpa

variable {F G : Type} [Field F] [DecidableEq F] [AddCommGroup G] [Module F G]
variable (enc : Enc F G)

/-- the verifier's accumulation `C + Σ xⱼ • Lⱼ + xⱼ⁻¹ • Rⱼ` -/
def accLR (c0 : G) (xs xinvs : List F) (Ls Rs : List G) : G :=
  (List.zip xs (List.zip xinvs (List.zip Ls Rs))).foldl
    (fun (c : G) (e : F × F × G × G) => c + e.1 • e.2.2.1 + e.2.1 • e.2.2.2) c0

theorem accLR_cons (c0 : G) (x xi : F) (xs xinvs : List F) (L R : G) (Ls Rs : List G) :
    accLR c0 (x :: xs) (xi :: xinvs) (L :: Ls) (R :: Rs) = accLR (c0 + x • L + xi • R) xs xinvs Ls Rs := rfl

/-- one round of `ipaRounds`: `L` and `R` are the statements of the crossed halves, the challenge
folds `a` by `x` and `b`, `g` by `x⁻¹` -/
theorem ipaRounds_succ (q : G) (n : Nat) (tr : Tr) (a b : List F) (g : List G) (m : Nat) (ha : a.length / 2 = m)
    {Ls Rs : List G} {af : List F} {tr' : Tr} (h : ipaRounds enc q (n + 1) tr a b g = (Ls, Rs, af, tr')) :
    ∃ c Ls' Rs', ((tr.appendPoint enc (ipaStmt q (a.drop m) (b.take m) (g.take m)) Label.L).appendPoint enc
        (ipaStmt q (a.take m) (b.drop m) (g.drop m)) Label.R).challenge enc Label.x = c ∧
      Ls = ipaStmt q (a.drop m) (b.take m) (g.take m) :: Ls' ∧ Rs = ipaStmt q (a.take m) (b.drop m) (g.drop m) :: Rs' ∧
      ipaRounds enc q n c.2 (foldScalars (a.take m) (a.drop m) c.1) (foldScalars (b.take m) (b.drop m) c.1⁻¹)
        (foldPoints (g.take m) (g.drop m) c.1⁻¹) = (Ls', Rs', af, tr') := by
  subst ha
  cases h
  exact ⟨_, _, _, rfl, rfl, rfl, rfl⟩

theorem genChallenges_cons (tr : Tr) (l r : G) (ls rs : List G) {c : F × Tr}
    (hc : ((tr.appendPoint enc l Label.L).appendPoint enc r Label.R).challenge enc Label.x = c) :
    genChallenges enc tr (l :: ls) (r :: rs) = (c.1 :: (genChallenges enc c.2 ls rs).1, (genChallenges enc c.2 ls rs).2) := by
  subst hc; rfl

theorem fold_length {α : Type} (l : List α) (n : Nat) (h : l.length = 2 ^ (n + 1)) :
    min (l.take (2 ^ n)).length (l.drop (2 ^ n)).length = 2 ^ n := by
  rw [List.length_take, List.length_drop, h, pow_succ]; omega

/-- **The folding rounds**, with the prover's output named: the verifier regenerates the prover's
challenges `xs` and final transcript from `L`, `R`, the prover's final vector is `a` folded by
`xs`, and, no challenge being zero, the verifier's accumulation is the fully folded statement. -/
theorem rounds_run (q : G) : ∀ (n : Nat) (tr : Tr) (a b : List F) (g : List G),
    a.length = 2 ^ n → b.length = 2 ^ n → g.length = 2 ^ n →
    ∀ Ls Rs af tr', ipaRounds enc q n tr a b g = (Ls, Rs, af, tr') →
    ∃ xs, genChallenges enc tr Ls Rs = (xs, tr') ∧ xs.length = n ∧ Ls.length = n ∧ Rs.length = n ∧
      af = foldAllScalars xs a ∧
      ((∀ x ∈ xs, x ≠ 0) → accLR (ipaStmt q a b g) xs (xs.map (·⁻¹)) Ls Rs
        = ipaStmt q (foldAllScalars xs a) (foldAllScalars (xs.map (·⁻¹)) b) (foldAllPoints (xs.map (·⁻¹)) g))
  | 0, tr, a, b, g, _, _, _, _, _, _, _, h => by
    cases h
    exact ⟨[], rfl, rfl, rfl, rfl, rfl, fun _ => rfl⟩
  | n + 1, tr, a, b, g, ha, hb, hg, _, _, _, _, h => by
    have ha2 : a.length / 2 = 2 ^ n := by rw [ha, pow_succ]; omega
    have hb2 : b.length / 2 = 2 ^ n := by rw [hb, pow_succ]; omega
    have hg2 : g.length / 2 = 2 ^ n := by rw [hg, pow_succ]; omega
    obtain ⟨c, Ls', Rs', hc, rfl, rfl, hr⟩ := ipaRounds_succ enc q n tr a b g _ ha2 h
    obtain ⟨xs, h1, h2, h3, h4, h5, h6⟩ := rounds_run q n c.2 _ _ _
      (by rw [foldScalars_length, fold_length a n ha]) (by rw [foldScalars_length, fold_length b n hb])
      (by rw [foldPoints_length, fold_length g n hg]) _ _ _ _ hr
    refine ⟨c.1 :: xs, ?_, by rw [List.length_cons, h2], by rw [List.length_cons, h3], by rw [List.length_cons, h4],
      ?_, fun hne => ?_⟩
    · rw [genChallenges_cons enc tr _ _ _ _ hc, h1]
    · rw [h5, foldAllScalars, ha2]
    · rw [List.map_cons, accLR_cons, foldAllScalars, foldAllScalars, foldAllPoints, ha2, hb2, hg2,
        ← h6 fun y hy => hne y (List.mem_cons_of_mem _ hy)]
      congr 1
      exact (round_identity q a b g (2 ^ n) c.1 (hne _ List.mem_cons_self) (by omega) (by omega) (by omega)).symm

/-- **The folding rounds.**  For vectors of length `2^n`: the verifier regenerates exactly the
prover's challenges and final transcript from `L`, `R`; if no challenge is zero, the prover's
final scalar is the folded `a`, and the verifier's accumulated commitment equals the statement
of the fully folded vectors. -/
theorem rounds_spec (q : G) : ∀ (n : Nat) (tr : Tr) (a b : List F) (g : List G),
    a.length = 2 ^ n → b.length = 2 ^ n → g.length = 2 ^ n →
    (genChallenges enc tr (ipaRounds enc q n tr a b g).1 (ipaRounds enc q n tr a b g).2.1).2
        = (ipaRounds enc q n tr a b g).2.2.2 ∧
    (genChallenges enc tr (ipaRounds enc q n tr a b g).1 (ipaRounds enc q n tr a b g).2.1).1.length = n ∧
    (ipaRounds enc q n tr a b g).1.length = n ∧ (ipaRounds enc q n tr a b g).2.1.length = n ∧
    ((∀ x ∈ (genChallenges enc tr (ipaRounds enc q n tr a b g).1 (ipaRounds enc q n tr a b g).2.1).1, x ≠ 0) →
      let xs := (genChallenges enc tr (ipaRounds enc q n tr a b g).1 (ipaRounds enc q n tr a b g).2.1).1
      (ipaRounds enc q n tr a b g).2.2.1 = foldAllScalars xs a ∧
      accLR (ipaStmt q a b g) xs (xs.map (·⁻¹)) (ipaRounds enc q n tr a b g).1 (ipaRounds enc q n tr a b g).2.1
        = ipaStmt q (foldAllScalars xs a) (foldAllScalars (xs.map (·⁻¹)) b) (foldAllPoints (xs.map (·⁻¹)) g)) := by
  intro n tr a b g ha hb hg
  obtain ⟨xs, h1, h2, h3, h4, h5, h6⟩ := rounds_run enc q n tr a b g ha hb hg _ _ _ _ rfl
  rw [h1]
  exact ⟨rfl, h2, h3, h4, fun hne => ⟨h5, h6 hne⟩⟩

end GoIpa.C04

namespace GoIpa.C04
open GoIpa

variable {F G : Type} [Field F] [DecidableEq F] [AddCommGroup G] [Module F G]
variable (enc : Enc F G)

/-- the transcript prefix shared by prover and verifier: separator, commitment, point, value, `w` -/
def ipaPrefix (tr : Tr) (commitment : G) (z y : F) : F × Tr :=
  let tr := tr.domainSep Label.ipa
  let tr := tr.appendPoint enc commitment Label.C
  let tr := tr.appendScalar enc z Label.inputPoint
  let tr := tr.appendScalar enc y Label.outputPoint
  tr.challenge enc Label.w

/-- the challenges of an honest run (as the verifier regenerates them) -/
def honestChallenges (cfg : IpaCfg F G) (tr : Tr) (commitment : G) (a : List F) (z : F) : List F :=
  let b := bVector cfg z
  let p := ipaPrefix enc tr commitment z (innerProd a b)
  let r := ipaRounds enc (p.1 • cfg.Q) cfg.rounds p.2 a b cfg.srs
  (genChallenges enc p.2 r.1 r.2.1).1

/-- **Completeness of the inner-product argument.**  For every field `F`, every `F`-module `G`,
every hash/encoder `enc` whose equality test is reflexive, every configuration with `2^k` basis
points and `k` rounds, every vector `a` of that length and every evaluation point `z`: if no
Fiat–Shamir challenge of the run is zero, `CreateIPAProof` returns a proof, `CheckIPAProof`
accepts it for the commitment `Σ aᵢ • Gᵢ` and the value `⟨a, b(z)⟩`, and prover and verifier end
in the same transcript state. -/
theorem ipa_complete (cfg : IpaCfg F G) (tr : Tr) (a : List F) (z : F)
    (hsrs : cfg.srs.length = 2 ^ cfg.rounds) (ha : a.length = 2 ^ cfg.rounds)
    (hb : (bVector cfg z).length = 2 ^ cfg.rounds) (hrefl : ∀ p : G, enc.eqG p p = true)
    (commitment : G) (hC : commitment = msm cfg.srs a)
    (hgood : ∀ x ∈ honestChallenges enc cfg tr commitment a z, x ≠ 0) :
    ∃ proof, (ipaProve enc cfg tr commitment a z).1 = some proof ∧
      ipaVerify enc cfg tr commitment proof z (innerProd a (bVector cfg z))
        = (.ok true, (ipaProve enc cfg tr commitment a z).2) := by
  set b := bVector cfg z with hbdef
  set y := innerProd a b with hy
  rcases hp : ipaPrefix enc tr commitment z y with ⟨w, tr1⟩
  set q := w • cfg.Q with hq
  rcases hR : ipaRounds enc q cfg.rounds tr1 a b cfg.srs with ⟨Ls, Rs, af, tr'⟩
  obtain ⟨xs, h1, h2, h3, h4, h5, h6⟩ := rounds_run enc q cfg.rounds tr1 a b cfg.srs ha hb hsrs Ls Rs af tr' hR
  have hxs : honestChallenges enc cfg tr commitment a z = xs := by
    unfold honestChallenges
    simp only [← hbdef, ← hy, hp, ← hq, hR, h1]
  rw [hxs] at hgood
  have hlen : (xs.map (·⁻¹)).length = cfg.rounds := by rw [List.length_map, h2]
  rw [foldAllScalars_eq xs a (by rw [h2, ha])] at h5
  have hacc := h6 hgood
  rw [foldAllScalars_eq xs a (by rw [h2, ha]), foldAllScalars_eq _ b (by rw [hlen, hb]),
    foldAllPoints_eq _ cfg.srs (by rw [hlen, hsrs])] at hacc
  unfold ipaPrefix at hp
  have hprove : ipaProve enc cfg tr commitment a z = (some ⟨Ls, Rs, innerProd a (fsRec xs)⟩, tr') := by
    unfold ipaProve
    simp only [← hbdef, ← hy, hp, ← hq, hR, h5]
  refine ⟨_, by rw [hprove], ?_⟩
  rw [hprove, C02.ipaVerify_eq_spec enc cfg hsrs, C02.specIpaVerify]
  simp only [h3, h4, ← hbdef, ne_eq, not_true_eq_false, ↓reduceIte, hp, ← hq, h1]
  congr 2
  -- the reference verifier's two sides are the statement before and after all rounds
  rw [← accLR, show commitment + y • q = ipaStmt q a b cfg.srs by rw [hC]; rfl, hacc, ipaStmt, msm_cons, innerProd_cons]
  simp only [msm_nil_left, innerProd_nil_left, add_zero, mul_comm]
  exact hrefl _

end GoIpa.C04

namespace GoIpa.C04
open GoIpa

section selection
variable {F G : Type} [Field F] [DecidableEq F]

theorem innerProd_replicate_zero (a : List F) (n : Nat) : innerProd a (List.replicate n (0 : F)) = 0 := by
  induction a generalizing n with
  | nil => simp
  | cons x a ih => cases n with
    | zero => simp
    | succ n => simp [List.replicate_succ, ih]

/-- inner product with a unit vector picks the entry -/
theorem innerProd_unit (a : List F) (N i : Nat) (ha : a.length = N) (hi : i < N) :
    innerProd a ((List.range N).map fun j => if j = i then (1 : F) else 0) = a.getD i 0 := by
  subst ha
  induction a generalizing i with
  | nil => simp at hi
  | cons x a ih =>
    rw [List.length_cons, List.range_succ_eq_map]
    simp only [List.map_cons, List.map_map, innerProd_cons]
    cases i with
    | zero =>
      have : innerProd a (List.map ((fun j => if j = 0 then (1 : F) else 0) ∘ Nat.succ) (List.range a.length)) = 0 := by
        have hz : (List.map ((fun j => if j = 0 then (1 : F) else 0) ∘ Nat.succ) (List.range a.length)) = List.replicate a.length 0 := by
          apply List.ext_getElem <;> simp
        rw [hz]
        exact innerProd_replicate_zero a _
      simp [this]
    | succ i =>
      have hi' : i < a.length := by simpa using hi
      have := ih i hi'
      have hm : (List.map ((fun j => if j = i + 1 then (1 : F) else 0) ∘ Nat.succ) (List.range a.length))
          = (List.range a.length).map fun j => if j = i then (1 : F) else 0 := by
        apply List.map_congr_left; intro j _; simp
      rw [hm, this]; simp

/-- **In-domain selection.** When the evaluation point is the domain element `i`, `computeBVector`
is the `i`-th unit vector, so the proved value is the evaluation `a[i]` itself. -/
theorem bVector_inDomain (cfg : IpaCfg F G) (z : F) (i : Nat) (h : cfg.inDomain z = some i) :
    bVector cfg z = (List.range cfg.N).map fun j => if j = i then (1 : F) else 0 := by
  unfold bVector; rw [h]

theorem innerProd_bVector_inDomain (cfg : IpaCfg F G) (z : F) (i : Nat) (h : cfg.inDomain z = some i)
    (a : List F) (ha : a.length = cfg.N) (hi : i < cfg.N) : innerProd a (bVector cfg z) = a.getD i 0 := by
  rw [bVector_inDomain cfg z i h, innerProd_unit a cfg.N i ha hi]

/-- out of the domain the vector is the barycentric coefficient vector (C18 relates it to `p(z)`) -/
theorem bVector_outside (cfg : IpaCfg F G) (z : F) (h : cfg.inDomain z = none) :
    bVector cfg z = cfg.weights.baryCoeffs cfg.N z := by
  unfold bVector; rw [h]

end selection

/-- **The switch between in-domain and out-of-domain handling happens exactly between 255 and
256**, for the concrete scalar field. -/
theorem frInDomain_iff (z : Fr) (i : Nat) : frInDomain 256 z = some i ↔ (Zp.val z = i ∧ i ≤ 255) := by
  unfold frInDomain
  constructor
  · intro h
    split at h
    · cases h; exact ⟨rfl, by omega⟩
    · cases h
  · rintro ⟨rfl, hle⟩
    simp [hle]

theorem frInDomain_none_iff (z : Fr) : frInDomain 256 z = none ↔ 256 ≤ Zp.val z := by
  unfold frInDomain
  constructor
  · intro h
    split at h
    · cases h
    · omega
  · intro h
    have : ¬ Zp.val z ≤ 256 - 1 := by omega
    simp [this]

example : frInDomain 256 (Zp.ofNat R 255) = some 255 := by decide
example : frInDomain 256 (Zp.ofNat R 256) = none := by decide

end GoIpa.C04
