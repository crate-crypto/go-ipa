/-
  The generic theorems at the model's own scalar field.  `R` and `P` are prime (Pratt
  certificates, `Lemmas/Primes.lean`), so `Fr = Zp R` and `Fp = Zp P` — the types the driver
  executes — are fields with exactly the executable operations, the 256 domain points are
  distinct in `Fr`, and the scalar side of the real configuration satisfies `CfgOk`.  The group
  stays abstract (any module over `Fr`): that Banderwagon is one is the G-assumption.
-/
import GoIpa.Lemmas.Primes
import GoIpa.Lemmas.ZpEuler
import GoIpa.Props.C01Complete
import GoIpa.Props.C02Mp
import GoIpa.Model.Config
namespace GoIpa.Concrete
open GoIpa GoIpa.Zp GoIpa.Mp

instance : Fact (Nat.Prime R) := ⟨Primes.R_prime⟩
instance : Fact (Nat.Prime P) := ⟨Primes.P_prime⟩
instance : Fact (2 < R) := ⟨by decide⟩
instance : Fact (2 < P) := ⟨by decide⟩

/-- the executable scalar field and base field are fields -/
example : Field Fr := inferInstance
example : Field Fp := inferInstance

theorem natCast_val (i : Nat) (hi : i < R) : ((i : Nat) : Fr).val = i := Nat.mod_eq_of_lt hi

theorem natCast_of_val (z : Fr) : ((z.val : Nat) : Fr) = z := toZ_injective (toZ_natCast z.val)

/-- **The 256 evaluation-domain points are pairwise distinct in the scalar field.** -/
theorem domain_injective : Set.InjOn (C18.dom (F := Fr)) (Finset.range 256) := by
  intro i hi j hj h
  have hi' : i < 256 := by simpa using hi
  have hj' : j < 256 := by simpa using hj
  have hR : 256 < R := by decide
  have := congrArg Zp.val h
  unfold C18.dom at this
  rw [natCast_val i (by omega), natCast_val j (by omega)] at this
  exact this

variable {G : Type} [AddCommGroup G] [Module Fr G]

/-- the scalar side of the real configuration, over any `Fr`-module -/
def realCfg (srs : List G) (Q : G) : IpaCfg Fr G where
  srs := srs
  Q := Q
  weights := Weights.new 256
  N := 256
  rounds := 8
  inDomain := frInDomain 256

theorem realCfg_ok (srs : List G) (h : srs.length = 256) (Q : G) : CfgOk (realCfg srs Q) where
  N_pos := by show 1 ≤ 256; decide
  srs_len := h
  pow := by show 256 = 2 ^ 8; decide
  weights := rfl
  inj := domain_injective
  dom_some := by
    intro z i hz
    unfold realCfg frInDomain at hz
    simp only at hz
    by_cases hle : z.val ≤ 256 - 1
    · rw [if_pos hle] at hz
      have : z.val = i := by simpa using hz
      subst this
      exact ⟨by show z.val < 256; omega, (natCast_of_val z).symm⟩
    · rw [if_neg hle] at hz; simp at hz
  dom_none := by
    intro z hz i hi heq
    unfold realCfg frInDomain at hz
    simp only at hz
    by_cases hle : z.val ≤ 256 - 1
    · rw [if_pos hle] at hz; simp at hz
    · have hR : 256 < R := by decide
      have := congrArg Zp.val heq
      rw [natCast_val i (by show i < R; have : i < 256 := hi; omega)] at this
      have hi' : i < 256 := hi
      omega

/-- **Multiproof completeness at the real scalar field and configuration shape**: the
hypotheses of `C01.multiproof_complete` about the field and the configuration are theorems. -/
theorem multiproof_complete_real (enc : Enc Fr G) (hrefl : ∀ p : G, enc.eqG p p = true)
    (srs : List G) (hsrs : srs.length = 256) (Q : G) (tr : Tr) (fs : List (List Fr)) (zs : List Nat)
    (hon : C01.Honest (realCfg srs Q) fs zs) (w : Nat) (hw : 1 ≤ w) (order : List Nat)
    (hperm : order.Perm (List.range w)) :
    let cfg := realCfg srs Q
    let Cs := fs.map (msm cfg.srs)
    let s := proverState enc cfg tr Cs fs zs w order
    (∀ i, i < fs.length → s.t ≠ ((zs.getD i 0 : Nat) : Fr)) →
    (∀ x ∈ C04.honestChallenges enc cfg s.tr (s.E - s.D) (List.zipWith (· - ·) s.h s.g) s.t, x ≠ 0) →
    ∃ proof, (mpProve enc cfg tr Cs fs zs w order).1 = some proof ∧
      mpVerify enc cfg tr proof Cs (honestYs fs zs) zs
        = (.ok true, (mpProve enc cfg tr Cs fs zs w order).2) :=
  C01.multiproof_complete enc (realCfg srs Q) (realCfg_ok srs hsrs Q) hrefl tr fs zs hon w hw order hperm

/-- non-vacuity: an honest statement exists for the real configuration shape -/
example (srs : List G) (Q : G) : C01.Honest (realCfg srs Q) [List.replicate 256 (1 : Fr)] [7] where
  len := rfl
  nonempty := by decide
  polys := by
    intro f hf
    rw [List.mem_singleton] at hf
    subst hf
    show (List.replicate 256 (1 : Fr)).length = 256
    exact List.length_replicate
  points := by
    intro z hz
    rw [List.mem_singleton] at hz
    subst hz
    show 7 < 256
    decide

/-- Euler's criterion evaluated with the model's power function -/
theorem not_square_of_pow (x : Fp) (h : (x ^ (P / 2)).val = P - 1) : ¬ IsSquare (Zp.toZ x) :=
  (Zp.pow_half_val x).2.2.1 h

/-- **The curve coefficients `a` and `d` are non-squares in the base field** (so `a·d` is a square and
the twisted Edwards model is the one the Banderwagon construction assumes). -/
theorem a_not_square : ¬ IsSquare (Zp.toZ bandersnatch.a) := not_square_of_pow _ (by decide +kernel)
theorem d_not_square : ¬ IsSquare (Zp.toZ bandersnatch.d) := not_square_of_pow _ (by decide +kernel)

end GoIpa.Concrete
