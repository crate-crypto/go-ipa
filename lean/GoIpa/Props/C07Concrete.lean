/-
  C07 at the executable types: `Element.Equal`, `Bytes` and decoding on the model's own
  `Pt = Proj Fp` with the real curve constants and the real table-driven square root.
  `a`, `d` non-squares and `p` prime are theorems, so nothing is assumed about the field.
-/
import GoIpa.Props.C07
import GoIpa.Props.C06Exact
import GoIpa.Props.C16
namespace GoIpa.C07
open GoIpa GoIpa.Zp GoIpa.Concrete

theorem isSquare_toZ {x : Fp} (h : IsSquare x) : IsSquare (Zp.toZ x) := (isSquare_toZ_iff x).2 h

theorem a_ns : ¬ IsSquare bandersnatch.a := fun h => a_not_square (isSquare_toZ h)
theorem d_ns : ¬ IsSquare bandersnatch.d := fun h => d_not_square (isSquare_toZ h)

/-- **`Equal` on the executable model decides class equality** of valid representations -/
theorem equal_iff_class_pt (p q : Pt) (hp : Valid bandersnatch p) (hq : Valid bandersnatch q) :
    Pt.equal p q = true ↔ ClassEq p q :=
  equal_iff_class bandersnatch a_ns d_ns p q hp hq

/-- negation flips "lexicographically largest" on non-zero elements -/
theorem lex_neg (y : Fp) (hy : y ≠ 0) : Fp.lexLargest (-y) = !Fp.lexLargest y :=
  C17.lexLargest_neg y (C06.val_ne_zero hy)

theorem bytesBE_length (x : Fp) : (Zp.bytesBE x).length = 32 := by
  unfold Zp.bytesBE natToBE; rw [List.length_reverse, C16.natToLE_length]

theorem beNat_bytesBE (x : Fp) : beNat (Zp.bytesBE x) = x.val :=
  C16.beNat_natToBE 32 x.val (Nat.lt_trans x.lt (by decide))

theorem bytesBE_injective : Function.Injective (Zp.bytesBE : Fp → Bytes) := fun a b h =>
  C06.zp_ext a b (by rw [← beNat_bytesBE a, h, beNat_bytesBE])

/-- **`Bytes` on the executable model is a complete invariant of the class** -/
theorem bytes_iff_class_pt (p q : Pt) (hp : Valid bandersnatch p) (hq : Valid bandersnatch q) :
    p.bytes = q.bytes ↔ ClassEq p q :=
  bytes_iff_class Fp.lexLargest Zp.bytesBE bandersnatch a_ns d_ns lex_neg bytesBE_injective p q hp hq

/-- **Equal ⇔ same bytes**, on the executable model -/
theorem equal_iff_bytes_pt (p q : Pt) (hp : Valid bandersnatch p) (hq : Valid bandersnatch q) :
    Pt.equal p q = true ↔ p.bytes = q.bytes := by
  rw [equal_iff_class_pt p q hp hq, bytes_iff_class_pt p q hp hq]

theorem subgroupOk_neg (x : Fp) : subgroupOk (-x) = subgroupOk x := by
  unfold subgroupOk
  have : (-x) * (-x) = x * x := by ring
  rw [this]

/-- **Decoding `P.Bytes()` succeeds and gives an element of the same class.**  For every valid
representation `P` (any `Z ≠ 0`, either member of the class) whose `x` passes the subgroup test. -/
theorem decode_bytes (p : Pt) (hp : Valid bandersnatch p) (hsub : subgroupOk p.toAff.x = true) :
    ∃ p', decodeCompressed Fp.sqrtPrecomp p.bytes false = .ok p' ∧ ClassEq p' p := by
  obtain ⟨hz, hcurve⟩ := hp
  have hy0 : p.toAff.y ≠ 0 := y_ne_zero bandersnatch a_ns _ hcurve
  -- the canonical member of the class
  obtain ⟨A, hA⟩ : ∃ A : Aff Fp, A = canon Fp.lexLargest p.toAff := ⟨_, rfl⟩
  have hAcurve : A.onCurve bandersnatch := hA ▸ canon_onCurve _ _ _ hcurve
  have hAclass : A = p.toAff ∨ A = p.toAff.flip := hA ▸ canon_class _ _
  have hAlex : Fp.lexLargest A.y = true := hA ▸ lex_canon_y lex_neg hy0
  have hAsub : subgroupOk A.x = true := by
    rcases hAclass with h | h
    · rw [h]; exact hsub
    · rw [h]; show subgroupOk (-p.toAff.x) = true; rw [subgroupOk_neg]; exact hsub
  have hbytes : p.bytes = Zp.bytesBE A.x := by
    show Proj.encode Fp.lexLargest Zp.bytesBE p = _
    rw [encode_eq, hA, canon_x]
  have hlt : beNat p.bytes < P := by rw [hbytes, beNat_bytesBE]; exact A.x.lt
  have hxe : (⟨beNat p.bytes, hlt⟩ : Fp) = A.x := C06.zp_ext _ _ (by show beNat p.bytes = A.x.val; rw [hbytes, beNat_bytesBE])
  obtain ⟨p', hdec⟩ := (C06.decode_accepts_iff p.bytes).mpr
    ⟨by rw [hbytes]; exact bytesBE_length _, hlt, by rw [hxe]; exact ⟨A.y, hAcurve⟩, by rw [hxe]; exact hAsub⟩
  refine ⟨p', hdec, ?_⟩
  obtain ⟨hz', hcurve', hlex'⟩ := C06.decode_returns_point p.bytes p' hdec
  obtain ⟨_, _, hxv, _, _, _⟩ := C06.decode_ok_shape Fp.sqrtPrecomp p.bytes p' hdec
  have hpx : p'.X = A.x := C06.zp_ext _ _ (by rw [hxv, hbytes, beNat_bytesBE])
  have hy'0 : p'.Y ≠ 0 := y_ne_zero bandersnatch a_ns ⟨p'.X, p'.Y⟩ hcurve'
  have hy'v : p'.Y.val ≠ 0 := C06.val_ne_zero hy'0
  have hAy0 : A.y ≠ 0 := y_ne_zero bandersnatch a_ns _ hAcurve
  -- same abscissa, both ordinates the larger root: the same point
  have hsame : (⟨p'.X, p'.Y⟩ : Aff Fp) = A :=
    eq_of_x_eq_of_lex bandersnatch d_ns lex_neg hcurve' hAcurve hAy0 hpx (by rw [hAlex]; exact hlex' hy'v)
  have htoAff : p'.toAff = A := by
    unfold Proj.toAff
    rw [hz', inv_one, mul_one, mul_one]
    exact hsame
  unfold ClassEq
  rw [htoAff]
  exact hAclass

/-- **`x/y` (what `MapToScalarField` serialises) is a complete invariant of the class**, on the
executable model (C11) -/
theorem mapToBase_iff_class_pt (p q : Pt) (hp : Valid bandersnatch p) (hq : Valid bandersnatch q) :
    p.mapToBase = q.mapToBase ↔ ClassEq p q :=
  map_iff_class bandersnatch a_ns d_ns p q hp hq

end GoIpa.C07
