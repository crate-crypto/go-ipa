/-
  C17 — base-field square root and point recovery.
  Kernel-checked facts about the constants of the table-driven algorithm and the structural
  specification of point recovery; the exhaustive behavioural tie (every 8-bit value of each
  discrete-log block, squares / non-squares) is the correspondence run against Tonelli–Shanks.
-/
import GoIpa.Model.Element
namespace GoIpa.C17
open GoIpa

/-- `p − 1 = Q · 2^32` with `Q` odd: the 2-adicity the algorithm is built on -/
theorem two_adicity : P - 1 = Qodd * 2 ^ 32 ∧ Qodd % 2 = 1 := by decide

/-- the hard-coded root of unity has exact order `2^32`: its `2^31`-th power is `−1` -/
theorem dyadicRoot_order : (dyadicRoots 31).val = P - 1 ∧ (dyadicRoots 32).val = 1 := by
  decide +kernel

/-- the reconstruction root has exact order `2^8` -/
theorem g8_order : (g8 ^ 128).val = P - 1 ∧ (g8 ^ 256).val = 1 := by decide +kernel

/-- the numbers in `l` are pairwise distinct and none is a set bit of `seen`: one pass over a bitmap,
where deciding `List.Nodup` compares all pairs -/
def freshBits : List Nat → Nat → Bool
  | [], _ => true
  | k :: l, seen => !seen.testBit k && freshBits l (seen ||| 1 <<< k)

theorem nodup_of_freshBits (l : List Nat) (seen : Nat) (h : freshBits l seen = true) :
    l.Nodup ∧ ∀ k ∈ l, seen.testBit k = false := by
  induction l generalizing seen with
  | nil => simp
  | cons a l ih =>
    simp only [freshBits, Bool.and_eq_true, Bool.not_eq_true'] at h
    obtain ⟨hl, hseen⟩ := ih _ h.2
    simp only [Nat.testBit_or, Nat.testBit_shiftLeft, Bool.or_eq_false_iff] at hseen
    refine ⟨List.nodup_cons.2 ⟨fun ha => ?_, hl⟩, ?_⟩
    · have := (hseen a ha).2; simp at this
    · intro k hk
      rcases List.mem_cons.1 hk with rfl | hk
      · exact h.1
      · exact (hseen k hk).1

/-- **The 256 lookup keys (low 16 bits of the Montgomery limb) are pairwise distinct**, so the
table inverts `g₈^i ↦ −i mod 256` without collisions. -/
theorem lut_keys_distinct : (dlogLUT.map (·.1)).Nodup :=
  (nodup_of_freshBits _ 0 (by decide +kernel)).1

theorem lut_values : dlogLUT.map (·.2) = (List.range 256).map fun i => (256 - i) % 256 := by
  decide +kernel

/-- the precomputed blocks are the powers the reconstruction uses: `blocks[i][j] = g^(j·2^(8i))` -/
theorem precompBlock_spec (i j : Nat) : precompBlock i j = (dyadicRoot ^ (2 ^ (8 * i))) ^ j := rfl

/-- on an association list with pairwise distinct keys, `find?` by key is membership -/
theorem find?_key_iff {β : Type} (l : List (Nat × β)) (hn : (l.map (·.1)).Nodup) (k : Nat) (e : Nat × β) :
    l.find? (fun x => x.1 == k) = some e ↔ e ∈ l ∧ e.1 = k := by
  induction l with
  | nil => simp
  | cons a t ih =>
    obtain ⟨ha, ht⟩ := List.nodup_cons.1 hn
    rw [List.find?_cons, List.mem_cons]
    by_cases hk : a.1 = k
    · rw [beq_iff_eq.2 hk, Option.some.injEq]
      refine ⟨fun h => ⟨.inl h.symm, h ▸ hk⟩, fun h => h.1.elim Eq.symm fun he => ?_⟩
      exact absurd (List.mem_map_of_mem (f := (·.1)) he) (h.2 ▸ hk ▸ ha)
    · rw [beq_eq_false_iff_ne.2 hk, ih ht]
      exact ⟨fun h => ⟨.inr h.1, h.2⟩, fun h => ⟨h.1.resolve_left fun he => hk (he ▸ h.2), h.2⟩⟩

theorem computeY_eq (sqrt : Fp → Option Fp) (x : Fp) (largest : Bool) :
    computeY sqrt x largest =
      (sqrt ((bandersnatch.a * (x * x) - 1) / (bandersnatch.d * (x * x) - 1))).map
        fun r => if Fp.lexLargest r = largest then r else -r := by
  unfold computeY
  dsimp only
  cases sqrt ((bandersnatch.a * (x * x) - 1) / (bandersnatch.d * (x * x) - 1)) with
  | none => rfl
  | some r => exact (apply_ite some _ _ _).symm

theorem neg_val (y : Fp) (hy : y.val ≠ 0) : (-y).val = P - y.val :=
  Nat.mod_eq_of_lt (by have := y.lt; omega)

/-- negation flips "lexicographically largest" on non-zero elements: `p` is odd -/
theorem lexLargest_neg (y : Fp) (hy : y.val ≠ 0) : Fp.lexLargest (-y) = !Fp.lexLargest y := by
  have hP : (P - 1) / 2 + (P - 1) / 2 + 1 = P := by decide
  have := y.lt
  unfold Fp.lexLargest
  rw [neg_val y hy, ← decide_not]
  exact decide_eq_decide.2 (by omega)

/-- **Point recovery picks the requested root.** Whatever root the square-root routine returns,
`computeY` hands back that root or its negation so that its sign matches the request (unless
the root is zero). -/
theorem computeY_sign (sqrt : Fp → Option Fp) (x y : Fp) (largest : Bool)
    (h : computeY sqrt x largest = some y) (hy : y.val ≠ 0) : Fp.lexLargest y = largest := by
  rw [computeY_eq] at h
  obtain ⟨r, -, rfl⟩ := Option.map_eq_some_iff.1 h
  by_cases hl : Fp.lexLargest r = largest
  · rwa [if_pos hl]
  · rw [if_neg hl] at hy ⊢
    have hr : r.val ≠ 0 := fun h0 => hy (by show (P - r.val) % P = 0; rw [h0]; rfl)
    rw [lexLargest_neg r hr, Bool.eq_not_of_ne hl, Bool.not_not]

theorem computeY_none_iff (sqrt : Fp → Option Fp) (x : Fp) (largest : Bool) :
    computeY sqrt x largest = none ↔
      sqrt ((bandersnatch.a * (x * x) - 1) / (bandersnatch.d * (x * x) - 1)) = none := by
  rw [computeY_eq, Option.map_eq_none_iff]

theorem sqrtPrecomp_zero : Fp.sqrtPrecomp (0 : Fp) = some 0 := by
  unfold Fp.sqrtPrecomp
  have : (0 : Fp).val = 0 := by decide
  simp [this]

end GoIpa.C17
