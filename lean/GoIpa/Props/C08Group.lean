/-
  C08 — the Banderwagon group law, proved.

  For every field and every twisted Edwards curve `a x² + y² = 1 + d x² y²` whose parameters
  `a`, `d` and `−d` are non-squares (Bandersnatch: `Concrete`/`C08Concrete`):

  * `aff_add_assoc` — the unified affine law is associative wherever the sums are defined
    (polynomial identities of `Lemmas/EdwardsAssoc.lean`);
  * `sub_complete` — on the points the decoder accepts (`1 − a x²` a non-zero square) the law is
    complete: no denominator vanishes, although `a` is a non-square and the law is *not* complete
    on the whole curve;
  * `sub_closed` — their sum is again such a point;
  * `Sub c` is an abelian group (`AddCommGroup`), `Banderwagon c = Sub c ⧸ {(0,1),(0,−1)}` is an
    abelian group, and two points give the same element exactly when `Element.Equal`'s test
    `x₁y₂ = y₁x₂` holds (`Banderwagon.mk_eq_iff`);
  * the projective / mixed / doubling formulas and double-and-add scalar multiplication compute
    this group's operations on every pair of valid representatives, with no side condition
    (`rep_add`, `rep_mixedAdd`, `rep_double`, `rep_neg`, `rep_nsmul`).

  What remains of the G-assumption is the order of the group (`r • x = 0`), a point-counting fact.
-/
import Mathlib.Tactic.Ring
import Mathlib.Tactic.FieldSimp
import Mathlib.Tactic.LinearCombination
import Mathlib.Algebra.Field.Basic
import GoIpa.Props.C08
import GoIpa.Lemmas.EdwardsAssoc
import GoIpa.Props.C07
import Mathlib.Algebra.Group.Even
import Mathlib.GroupTheory.QuotientGroup.Defs
namespace GoIpa.C08
open GoIpa

variable {F : Type} [Field F]

theorem kappa_comm (c : Curve F) (p q : Aff F) : kappa c p q = kappa c q p := by
  unfold kappa; ring

theorem mul_inv_eq_div {A B N D s : F} (hs : s ≠ 0) (hN : N = A * s) (hD : D = B * s) : A * B⁻¹ = N / D := by
  rw [hN, hD, mul_div_mul_right _ _ hs, div_eq_mul_inv]

/-- adding `r` to a point whose coordinates are fractions gives one fraction per coordinate; each
new denominator is the law's denominator times `u * v` -/
theorem add_frac (c : Curve F) {X Y u v : F} (hu : u ≠ 0) (hv : v ≠ 0) (r : Aff F) :
    Aff.add c ⟨X * u⁻¹, Y * v⁻¹⟩ r =
      ⟨(X * r.y * v + Y * r.x * u) / (u * v + c.d * X * Y * r.x * r.y),
       (Y * r.y * u - c.a * X * r.x * v) / (u * v - c.d * X * Y * r.x * r.y)⟩ ∧
    u * v + c.d * X * Y * r.x * r.y = (1 + kappa c ⟨X * u⁻¹, Y * v⁻¹⟩ r) * (u * v) ∧
    u * v - c.d * X * Y * r.x * r.y = (1 - kappa c ⟨X * u⁻¹, Y * v⁻¹⟩ r) * (u * v) := by
  have hD : u * v + c.d * X * Y * r.x * r.y = (1 + kappa c ⟨X * u⁻¹, Y * v⁻¹⟩ r) * (u * v) := by
    simp only [kappa]; field_simp
  have hD' : u * v - c.d * X * Y * r.x * r.y = (1 - kappa c ⟨X * u⁻¹, Y * v⁻¹⟩ r) * (u * v) := by
    simp only [kappa]; field_simp
  have hs := mul_ne_zero hu hv
  refine ⟨aff_ext ?_ ?_, hD, hD'⟩
  · exact mul_inv_eq_div hs (by field_simp) hD
  · exact mul_inv_eq_div hs (by field_simp) hD'

open Edwards in
/-- `(p + q) + r` as a pair of fractions of polynomials -/
theorem add_add_frac (c : Curve F) (p q r : Aff F) (h1 : 1 + kappa c p q ≠ 0) (h2 : 1 - kappa c p q ≠ 0) :
    Aff.add c (Aff.add c p q) r = ⟨Nx c p q r / Dx c p q r, Ny c p q r / Dy c p q r⟩ ∧
    Dx c p q r = (1 + kappa c (Aff.add c p q) r) * ((1 + kappa c p q) * (1 - kappa c p q)) ∧
    Dy c p q r = (1 - kappa c (Aff.add c p q) r) * ((1 + kappa c p q) * (1 - kappa c p q)) :=
  add_frac c h1 h2 r

/-- **Associativity** of the unified affine law, wherever the six sums involved are defined. -/
theorem aff_add_assoc (c : Curve F) (p q r : Aff F) (hp : p.onCurve c) (hq : q.onCurve c) (hr : r.onCurve c)
    (h1 : 1 + kappa c p q ≠ 0) (h2 : 1 - kappa c p q ≠ 0)
    (h3 : 1 + kappa c (Aff.add c p q) r ≠ 0) (h4 : 1 - kappa c (Aff.add c p q) r ≠ 0)
    (h5 : 1 + kappa c q r ≠ 0) (h6 : 1 - kappa c q r ≠ 0)
    (h7 : 1 + kappa c p (Aff.add c q r) ≠ 0) (h8 : 1 - kappa c p (Aff.add c q r) ≠ 0) :
    Aff.add c (Aff.add c p q) r = Aff.add c p (Aff.add c q r) := by
  -- `p + (q + r) = (r + q) + p`: both sides are triple sums, with `p` and `r` exchanged
  rw [aff_add_comm c p (Aff.add c q r), aff_add_comm c q r]
  rw [kappa_comm c p, aff_add_comm c q r] at h7 h8
  rw [kappa_comm c q r] at h5 h6
  obtain ⟨eL, dLx, dLy⟩ := add_add_frac c p q r h1 h2
  obtain ⟨eR, dRx, dRy⟩ := add_add_frac c r q p h5 h6
  rw [eL, eR]
  congr 1
  · rw [div_eq_div_iff (dLx ▸ mul_ne_zero h3 (mul_ne_zero h1 h2)) (dRx ▸ mul_ne_zero h7 (mul_ne_zero h5 h6))]
    exact Edwards.assoc_x_identity c p q r hp hq hr
  · rw [div_eq_div_iff (dLy ▸ mul_ne_zero h4 (mul_ne_zero h1 h2)) (dRy ▸ mul_ne_zero h8 (mul_ne_zero h5 h6))]
    exact Edwards.assoc_y_identity c p q r hp hq hr

theorem sq_helper (d X K W t : F) (hK : K ≠ 0) (ht : t ≠ 0) (h : (K^2 - d*X^2) * t^2 = W^2) :
    1 - d * (X*K⁻¹ * (X*K⁻¹)) = (W * (K*t)⁻¹) * (W*(K*t)⁻¹) := by
  field_simp
  linear_combination h

theorem sq_of_mul (v s m : F) (hm : m ≠ 0) (h : v * m ^ 2 = s ^ 2) : v = (s * m⁻¹) * (s * m⁻¹) := by
  field_simp
  linear_combination h

theorem y_ne_zero (c : Curve F) (ha : ¬IsSquare c.a) (p : Aff F) (h : p.onCurve c) : p.y ≠ 0 := by
  classical exact C07.y_ne_zero c ha p h

/-! ### The Banderwagon subgroup: curve points with `1 − a x²` a non-zero square -/

/-- the hypotheses on the curve parameters: `a`, `d` and `−d` are non-squares (for Bandersnatch:
`Concrete.a_not_square`, `d_not_square`, and `−1` is a square because `p ≡ 1 (mod 4)`) -/
structure NonSq (c : Curve F) : Prop where
  a : ¬IsSquare c.a
  d : ¬IsSquare c.d
  nd : ¬IsSquare (-c.d)

/-- what untrusted decoding checks (`C06.subgroupOk_iff`): on the curve, `1 − a x²` a non-zero square -/
structure InSub (c : Curve F) (p : Aff F) : Prop where
  on : p.onCurve c
  ne : 1 - c.a * (p.x * p.x) ≠ 0
  sq : IsSquare (1 - c.a * (p.x * p.x))

theorem v_ne_zero (c : Curve F) (hc : NonSq c) (x : F) : 1 - c.d * (x * x) ≠ 0 :=
  fun h => C07.mul_sq_ne_one hc.d x (by linear_combination -h)

/-- on the curve `1 − a x² = y² (1 − d x²)` -/
theorem u_eq (c : Curve F) (p : Aff F) (h : p.onCurve c) :
    1 - c.a * (p.x * p.x) = p.y * p.y * (1 - c.d * (p.x * p.x)) := by
  unfold Aff.onCurve at h; linear_combination -h

/-- in the subgroup, `1 − d x²` is the square of a non-zero element -/
theorem InSub.v_sq {c : Curve F} (hc : NonSq c) {p : Aff F} (h : InSub c p) :
    ∃ t, t ≠ 0 ∧ 1 - c.d * (p.x * p.x) = t * t := by
  obtain ⟨s, hs⟩ := h.sq
  have hy := y_ne_zero c hc.a p h.on
  have hu := u_eq c p h.on
  have hs0 : s ≠ 0 := by
    intro h0; rw [h0, mul_zero] at hs; exact h.ne hs
  refine ⟨s * p.y⁻¹, mul_ne_zero hs0 (inv_ne_zero hy), ?_⟩
  field_simp
  linear_combination hs - hu

/-- conversely a curve point with `1 − d x²` a square is in the subgroup -/
theorem inSub_of_v_sq {c : Curve F} (hc : NonSq c) {p : Aff F} (h : p.onCurve c)
    (hv : IsSquare (1 - c.d * (p.x * p.x))) : InSub c p := by
  have hy := y_ne_zero c hc.a p h
  have hu := u_eq c p h
  refine ⟨h, ?_, ?_⟩
  · rw [hu]; exact mul_ne_zero (mul_ne_zero hy hy) (v_ne_zero c hc p.x)
  · obtain ⟨t, ht⟩ := hv
    exact ⟨p.y * t, by rw [hu, ht]; ring⟩

/-- **Completeness on the subgroup.** For two subgroup points neither denominator of the
unified law vanishes (although `a` is not a square and the law is *not* complete on the curve). -/
theorem sub_complete {c : Curve F} (hc : NonSq c) {p q : Aff F} (hp : InSub c p) (hq : InSub c q) :
    1 + kappa c p q ≠ 0 ∧ 1 - kappa c p q ≠ 0 := by
  have key : kappa c p q ^ 2 ≠ 1 := by
    intro hk
    obtain ⟨t1, ht10, ht1⟩ := hp.v_sq hc
    obtain ⟨s2, hs2⟩ := hq.sq
    have hs20 : s2 ≠ 0 := by
      intro h0; rw [h0, mul_zero] at hs2; exact hq.ne hs2
    have e1 := hp.on
    have e2 := hq.on
    unfold Aff.onCurve at e1 e2
    unfold kappa at hk
    have hx1 : p.x ≠ 0 := by
      intro h0; rw [h0] at hk; simp at hk
    have hy1 : p.y ≠ 0 := y_ne_zero c hc.a p hp.on
    have hx2 : q.x ≠ 0 := by
      intro h0; rw [h0] at hk; simp at hk
    have quad : (c.a * (q.x * q.x) * c.d * (p.x * p.x) - 1) * (q.x * q.x * c.d * (p.y * p.y) - 1) = 0 := by
      linear_combination (-c.d * q.x ^ 2) * e1 + (c.d * q.x ^ 2 * (c.d * p.x ^ 2 * p.y ^ 2)) * e2
        + (c.d * q.x ^ 2 - 1) * hk
    rcases mul_eq_zero.mp quad with hA | hB
    · -- a d x₁² x₂² = 1: then −d is a square
      apply hc.nd
      exact ⟨t1 * (s2 * p.x)⁻¹, sq_of_mul _ _ _ (mul_ne_zero hs20 hx1)
        (by linear_combination (c.d * p.x ^ 2) * hs2 + ht1 + hA)⟩
    · -- d x₂² y₁² = 1: then d is a square
      apply hc.d
      exact ⟨1 * (q.x * p.y)⁻¹, sq_of_mul _ _ _ (mul_ne_zero hx2 hy1) (by linear_combination hB)⟩
  constructor
  · intro h
    apply key
    have : kappa c p q = -1 := by linear_combination h
    rw [this]; ring
  · intro h
    apply key
    have : kappa c p q = 1 := by linear_combination -h
    rw [this]; ring

/-- **Closure of the subgroup.** -/
theorem sub_closed {c : Curve F} (hc : NonSq c) {p q : Aff F} (hp : InSub c p) (hq : InSub c q) :
    InSub c (Aff.add c p q) := by
  obtain ⟨h1, h2⟩ := sub_complete hc hp hq
  refine inSub_of_v_sq hc (aff_add_onCurve c p q hp.on hq.on h1 h2) ?_
  obtain ⟨t1, ht10, ht1⟩ := hp.v_sq hc
  obtain ⟨t2, ht20, ht2⟩ := hq.v_sq hc
  have e1 := hp.on
  have e2 := hq.on
  unfold Aff.onCurve at e1 e2
  unfold kappa at h1
  simp only [Aff.add]
  refine ⟨(1 - c.d * p.x ^ 2 - c.d * q.x ^ 2 + c.a * c.d * p.x ^ 2 * q.x ^ 2)
    * ((1 + c.d * (p.x * q.x) * (p.y * q.y)) * (t1 * t2))⁻¹, ?_⟩
  apply sq_helper _ _ _ _ _ h1 (mul_ne_zero ht10 ht20)
  linear_combination
    (-c.d^3*p.x^2*q.x^4*q.y^2 + c.d^2*p.x^2*q.x^2*q.y^2 + c.d^2*q.x^4 - c.d*q.x^2) * e1
    + (-c.a*c.d^2*p.x^4*q.x^2 + c.d^2*p.x^4 + c.d^2*p.x^2*q.x^2 - c.d*p.x^2) * e2
    - (((1 + c.d * (p.x * q.x) * (p.y * q.y)) ^ 2 - c.d * (p.x * q.y + p.y * q.x) ^ 2) * (1 - c.d * q.x ^ 2)) * ht1
    - (((1 + c.d * (p.x * q.x) * (p.y * q.y)) ^ 2 - c.d * (p.x * q.y + p.y * q.x) ^ 2) * (t1 ^ 2)) * ht2


theorem zero_inSub (c : Curve F) : InSub c (Aff.zero : Aff F) := by
  refine ⟨?_, ?_, ⟨1, ?_⟩⟩ <;> simp [Aff.onCurve, Aff.zero]

/-- membership depends on `x²` and `y²` only -/
theorem inSub_of_sq_eq {c : Curve F} {p q : Aff F} (hx : q.x * q.x = p.x * p.x) (hy : q.y * q.y = p.y * p.y)
    (h : InSub c p) : InSub c q :=
  ⟨by unfold Aff.onCurve; rw [hx, hy]; exact h.on, by rw [hx]; exact h.ne, by rw [hx]; exact h.sq⟩

theorem neg_inSub {c : Curve F} {p : Aff F} (h : InSub c p) : InSub c p.neg :=
  inSub_of_sq_eq (neg_mul_neg p.x p.x) rfl h

theorem flip_inSub {c : Curve F} {p : Aff F} (h : InSub c p) : InSub c p.flip :=
  inSub_of_sq_eq (neg_mul_neg p.x p.x) (neg_mul_neg p.y p.y) h

/-- **Associativity on the subgroup**, unconditionally. -/
theorem sub_assoc {c : Curve F} (hc : NonSq c) {p q r : Aff F} (hp : InSub c p) (hq : InSub c q) (hr : InSub c r) :
    Aff.add c (Aff.add c p q) r = Aff.add c p (Aff.add c q r) := by
  obtain ⟨h1, h2⟩ := sub_complete hc hp hq
  obtain ⟨h3, h4⟩ := sub_complete hc (sub_closed hc hp hq) hr
  obtain ⟨h5, h6⟩ := sub_complete hc hq hr
  obtain ⟨h7, h8⟩ := sub_complete hc hp (sub_closed hc hq hr)
  exact aff_add_assoc c p q r hp.on hq.on hr.on h1 h2 h3 h4 h5 h6 h7 h8

theorem sub_add_neg {c : Curve F} (hc : NonSq c) {p : Aff F} (hp : InSub c p) : Aff.add c p p.neg = Aff.zero := by
  obtain ⟨h1, h2⟩ := sub_complete hc hp (neg_inSub hp)
  exact aff_add_neg c p hp.on h1 h2

/-! ### The group of subgroup points and its quotient by `{(0,1), (0,−1)}` -/

/-- the points the decoder accepts -/
def Sub (c : Curve F) : Type := {p : Aff F // InSub c p}

section SubGroup
variable (c : Curve F) [hc : Fact (NonSq c)]

instance : Add (Sub c) := ⟨fun p q => ⟨Aff.add c p.1 q.1, sub_closed hc.out p.2 q.2⟩⟩
instance : Zero (Sub c) := ⟨⟨Aff.zero, zero_inSub c⟩⟩
instance : Neg (Sub c) := ⟨fun p => ⟨p.1.neg, neg_inSub p.2⟩⟩

theorem Sub.add_val (p q : Sub c) : (p + q).1 = Aff.add c p.1 q.1 := rfl
omit hc in
theorem Sub.zero_val : (0 : Sub c).1 = Aff.zero := rfl
omit hc in
theorem Sub.neg_val (p : Sub c) : (-p).1 = p.1.neg := rfl

/-- **The subgroup points form an abelian group under the unified law.** -/
instance : AddCommGroup (Sub c) where
  add_assoc p q r := Subtype.ext (sub_assoc hc.out p.2 q.2 r.2)
  zero_add p := Subtype.ext (by rw [Sub.add_val, aff_add_comm, Sub.zero_val, aff_add_zero])
  add_zero p := Subtype.ext (by rw [Sub.add_val, Sub.zero_val, aff_add_zero])
  add_comm p q := Subtype.ext (aff_add_comm c p.1 q.1)
  neg_add_cancel p := Subtype.ext (by rw [Sub.add_val, aff_add_comm, Sub.neg_val, Sub.zero_val, sub_add_neg hc.out p.2])
  nsmul := nsmulRec
  zsmul := zsmulRec

/-- the point `(0, −1)` of order two -/
def Sub.two : Sub c := ⟨(Aff.zero : Aff F).flip, flip_inSub (zero_inSub c)⟩

theorem Sub.add_two (p : Sub c) : (p + Sub.two c).1 = p.1.flip := by
  show Aff.add c p.1 (Aff.zero : Aff F).flip = _
  rw [aff_add_comm, aff_add_flip, aff_add_comm, aff_add_zero]

theorem Sub.two_add_two : Sub.two c + Sub.two c = 0 := by
  apply Subtype.ext
  rw [Sub.add_two]
  show (Aff.zero : Aff F).flip.flip = Aff.zero
  apply aff_ext <;> simp [Aff.flip]

theorem Sub.neg_two : -(Sub.two c) = Sub.two c := by
  rw [neg_eq_iff_add_eq_zero, Sub.two_add_two]

/-- the subgroup `{(0,1), (0,−1)}` -/
def Sub.T2 : AddSubgroup (Sub c) where
  carrier := {p | p = 0 ∨ p = Sub.two c}
  zero_mem' := Or.inl rfl
  add_mem' := by
    rintro a b (rfl | rfl) (rfl | rfl)
    · left; simp
    · right; simp
    · right; simp
    · left; exact Sub.two_add_two c
  neg_mem' := by
    rintro a (rfl | rfl)
    · left; simp
    · right; exact Sub.neg_two c

theorem Sub.mem_T2 (p : Sub c) : p ∈ Sub.T2 c ↔ (p = 0 ∨ p = Sub.two c) := Iff.rfl
end SubGroup

/-- **The Banderwagon group**: subgroup points modulo `{(0,1), (0,−1)}` -/
abbrev Banderwagon (c : Curve F) [Fact (NonSq c)] : Type := Sub c ⧸ Sub.T2 c

section Quot
variable (c : Curve F) [hc : Fact (NonSq c)]

instance : AddCommGroup (Banderwagon c) := QuotientAddGroup.Quotient.addCommGroup (Sub.T2 c)

def Banderwagon.mk (p : Sub c) : Banderwagon c := QuotientAddGroup.mk p

theorem Banderwagon.mk_add (p q : Sub c) : Banderwagon.mk c (p + q) = Banderwagon.mk c p + Banderwagon.mk c q := rfl
theorem Banderwagon.mk_neg (p : Sub c) : Banderwagon.mk c (-p) = -Banderwagon.mk c p := rfl
theorem Banderwagon.mk_zero : Banderwagon.mk c 0 = 0 := rfl

/-- **Two subgroup points are the same Banderwagon element exactly when the test of
`Element.Equal`, `x₁y₂ = y₁x₂`, holds.** -/
theorem Banderwagon.mk_eq_iff (p q : Sub c) : Banderwagon.mk c p = Banderwagon.mk c q ↔ p.1.x * q.1.y = p.1.y * q.1.x := by
  have hcross : p.1.x * q.1.y = p.1.y * q.1.x ↔ (p.1 = q.1 ∨ p.1 = q.1.flip) := by
    classical exact C07.cross_iff_class c hc.out.a hc.out.d p.1 q.1 p.2.on q.2.on
  rw [hcross]
  show (QuotientAddGroup.mk p : Sub c ⧸ Sub.T2 c) = QuotientAddGroup.mk q ↔ _
  rw [QuotientAddGroup.eq, Sub.mem_T2]
  constructor
  · rintro (h | h)
    · left
      have : q = p := by rw [← add_zero p, ← h, add_neg_cancel_left]
      rw [this]
    · right
      have : q = p + Sub.two c := by rw [← h, add_neg_cancel_left]
      rw [this, Sub.add_two]
      apply aff_ext <;> simp [Aff.flip]
  · rintro (h | h)
    · left
      have : p = q := Subtype.ext h
      rw [this, neg_add_cancel]
    · right
      have : p = q + Sub.two c := Subtype.ext (by rw [Sub.add_two]; exact h)
      rw [this, neg_add_rev, add_assoc, neg_add_cancel, add_zero, Sub.neg_two]
end Quot


/-! ### The coordinate formulas compute the group operations on representatives -/

section Rep
variable (c : Curve F) [hc : Fact (NonSq c)]

/-- the projective point `p` represents the subgroup point `g` -/
def Rep (p : Proj F) (g : Sub c) : Prop := p.Z ≠ 0 ∧ p.toAff = g.1

omit hc in
theorem rep_zero : Rep c (Proj.zero : Proj F) ⟨Aff.zero, zero_inSub c⟩ := by
  refine ⟨by simp [Proj.zero], ?_⟩
  apply aff_ext <;> simp [Proj.zero, Proj.toAff, Aff.zero]

/-- **Projective addition of any two representatives represents the sum** — no side condition. -/
theorem rep_add {p q : Proj F} {g h : Sub c} (hp : Rep c p g) (hq : Rep c q h) : Rep c (Proj.add c p q) (g + h) := by
  obtain ⟨hpz, hpa⟩ := hp
  obtain ⟨hqz, hqa⟩ := hq
  obtain ⟨h1, h2⟩ := sub_complete hc.out g.2 h.2
  rw [← hpa, ← hqa] at h1 h2
  obtain ⟨hz, ha⟩ := proj_add_affine c p q hpz hqz h1 h2
  exact ⟨hz, by rw [ha, hpa, hqa]; rfl⟩

/-- **Mixed addition** with an affine subgroup point -/
theorem rep_mixedAdd {p : Proj F} {g h : Sub c} (hp : Rep c p g) : Rep c (Proj.mixedAdd c p h.1) (g + h) := by
  obtain ⟨hpz, hpa⟩ := hp
  obtain ⟨h1, h2⟩ := sub_complete hc.out g.2 h.2
  rw [← hpa] at h1 h2
  obtain ⟨hz, ha⟩ := mixedAdd_affine c p h.1 hpz h1 h2
  exact ⟨hz, by rw [ha, hpa]; rfl⟩

/-- **Doubling** -/
theorem rep_double {p : Proj F} {g : Sub c} (hp : Rep c p g) : Rep c (Proj.double c p) (g + g) := by
  obtain ⟨hpz, hpa⟩ := hp
  obtain ⟨h1, h2⟩ := sub_complete hc.out g.2 g.2
  rw [← hpa] at h1 h2
  obtain ⟨hz, ha⟩ := proj_double_affine c p hpz (by rw [hpa]; exact g.2.on) h1 h2
  exact ⟨hz, by rw [ha, hpa]; rfl⟩

/-- **Extended addition (`add-2008-hwcd`)** of consistent representatives -/
theorem rep_extAdd {p q : Ext F} {g h : Sub c} (hp : ExtOk p) (hq : ExtOk q)
    (hpr : Rep c p.toProj g) (hqr : Rep c q.toProj h) :
    ExtOk (Ext.add c p q) ∧ Rep c (Ext.add c p q).toProj (g + h) := by
  obtain ⟨h1, h2⟩ := sub_complete hc.out g.2 h.2
  rw [← hpr.2, ← hqr.2] at h1 h2
  obtain ⟨hok, ha⟩ := ext_add_affine c p q hp hq h1 h2
  exact ⟨hok, hok.1, by rw [ha, hpr.2, hqr.2]; rfl⟩

/-- **`ExtendedAddNormalized`** (the repository's own formula) with a normalised table entry -/
theorem rep_addN {p : Ext F} {g h : Sub c} (hp : ExtOk p) (hpr : Rep c p.toProj g) :
    ExtOk (Ext.addN c p (ExtN.ofAff h.1)) ∧ Rep c (Ext.addN c p (ExtN.ofAff h.1)).toProj (g + h) := by
  rw [addN_eq_add]
  have hq : ExtOk (⟨(ExtN.ofAff h.1).X, (ExtN.ofAff h.1).Y, 1, (ExtN.ofAff h.1).T⟩ : Ext F) :=
    ⟨one_ne_zero, by simp [ExtN.ofAff]⟩
  have hqr : Rep c (⟨(ExtN.ofAff h.1).X, (ExtN.ofAff h.1).Y, 1, (ExtN.ofAff h.1).T⟩ : Ext F).toProj h := by
    refine ⟨one_ne_zero, ?_⟩
    apply aff_ext <;> simp [Ext.toProj, Proj.toAff, ExtN.ofAff]
  exact rep_extAdd c hp hq hpr hqr

omit hc in
/-- **Negation** -/
theorem rep_neg {p : Proj F} {g : Sub c} (hp : Rep c p g) : Rep c (Proj.neg p) (-g) := by
  obtain ⟨hpz, hpa⟩ := hp
  refine ⟨hpz, ?_⟩
  have hx : p.X * p.Z⁻¹ = g.1.x := congrArg Aff.x hpa
  have hy : p.Y * p.Z⁻¹ = g.1.y := congrArg Aff.y hpa
  apply aff_ext
  · show -p.X * p.Z⁻¹ = -g.1.x
    rw [← hx]; ring
  · exact hy

theorem rep_nsmulAux {p : Proj F} {g : Sub c} (hp : Rep c p g) :
    ∀ (fuel n : Nat), n < 2 ^ fuel → Rep c (Proj.nsmulAux c p fuel n) (n • g) := by
  intro fuel
  induction fuel with
  | zero =>
    intro n hn
    have : n = 0 := by simpa using hn
    subst this
    rw [zero_nsmul]; exact rep_zero c
  | succ fuel ih =>
    intro n hn
    unfold Proj.nsmulAux
    by_cases h0 : n = 0
    · rw [if_pos h0, h0, zero_nsmul]; exact rep_zero c
    · rw [if_neg h0]
      have hhalf : n / 2 < 2 ^ fuel := by
        rw [Nat.div_lt_iff_lt_mul (by decide)]; rw [pow_succ] at hn; exact hn
      have hd := rep_double c (ih (n / 2) hhalf)
      simp only
      by_cases h1 : n % 2 = 1
      · rw [if_pos h1]
        have := rep_add c hd hp
        have e : (n / 2) • g + (n / 2) • g + g = n • g := by
          rw [← add_nsmul, ← succ_nsmul]; congr 1; omega
        rwa [e] at this
      · rw [if_neg h1]
        have e : (n / 2) • g + (n / 2) • g = n • g := by
          rw [← add_nsmul]; congr 1; omega
        rwa [e] at hd

/-- **Double-and-add scalar multiplication computes `n • g`** for every `n`. -/
theorem rep_nsmul {p : Proj F} {g : Sub c} (hp : Rep c p g) (n : Nat) : Rep c (Proj.nsmul c n p) (n • g) :=
  rep_nsmulAux c hp _ n Nat.lt_log2_self

end Rep

end GoIpa.C08
