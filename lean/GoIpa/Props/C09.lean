/-
  C09 — the bucket method computes Σ sᵢ • Pᵢ.  Group-level theorems, for every abelian
  group: bucket reduction by running sums, Horner recombination of the chunk totals, and the
  signed-digit recoding with carry.
-/
import Mathlib.Tactic.Module
import Mathlib.Tactic.Ring
import Mathlib.Tactic.Abel
import Mathlib.Tactic.Linarith
import Mathlib.Tactic.LinearCombination
import Mathlib.Algebra.Module.NatInt
import Mathlib.Algebra.BigOperators.Group.List.Basic
import GoIpa.Model.Pippenger
namespace GoIpa.C09
open GoIpa

variable {G : Type} [AddCommGroup G]

/-- `Σ (k+1) • b_k` in recursive form -/
def weighted : List G → G
  | [] => 0
  | b :: l => b + weighted l + l.sum

theorem running_sum_fold (l : List G) (r0 t0 : G) :
    l.foldr (fun (bk : G) (st : G × G) => (st.1 + bk, st.2 + (st.1 + bk))) (r0, t0)
      = (r0 + l.sum, t0 + l.length • r0 + weighted l) := by
  induction l with
  | nil => simp [weighted]
  | cons b l ih =>
    simp only [List.foldr_cons, ih, List.sum_cons, List.length_cons, weighted]
    refine Prod.ext ?_ ?_
    · simp only; abel
    · simp only [add_smul, one_smul]; abel

/-- **Bucket reduction.** The running-sum loop over the buckets returns `Σ (k+1) • bucket_k`. -/
theorem bucket_reduce (buckets : List G) :
    (buckets.foldr (fun (bk : G) (st : G × G) => (st.1 + bk, st.2 + (st.1 + bk))) ((0 : G), (0 : G))).2
      = weighted buckets := by
  rw [running_sum_fold]; simp

/-- closed form of `weighted`: the bucket at position `k` counts `k+1` times -/
theorem weighted_eq_sum (l : List G) :
    weighted l = ((List.zipIdx l).map fun e => (e.2 + 1) • e.1).sum := by
  suffices h : ∀ (n : Nat), ((List.zipIdx l n).map fun e => (e.2 + 1) • e.1).sum = weighted l + n • l.sum by
    have := h 0; simp at this; exact this.symm
  induction l with
  | nil => intro n; simp [weighted]
  | cons b l ih =>
    intro n
    simp only [List.zipIdx_cons, List.map_cons, List.sum_cons, ih (n + 1), weighted]
    simp only [add_smul, one_smul, smul_add]
    abel

theorem doubleN_spec (n : Nat) (p : G) : doubleN (fun x => x + x) n p = (2 ^ n) • p := by
  induction n generalizing p with
  | zero => simp [doubleN]
  | succ n ih => rw [doubleN, ih, pow_succ, mul_smul, two_smul]

/-- Horner's rule over a prefix, most significant entry first -/
theorem horner_fold (c : Nat) (pre : List G) (acc : G) :
    pre.reverse.foldl (fun acc t => doubleN (fun x => x + x) c acc + t) acc
      = (2 ^ (c * pre.length)) • acc + ((List.zipIdx pre).map fun e => (2 ^ (c * e.2)) • e.1).sum := by
  induction pre using List.reverseRecOn generalizing acc with
  | nil => simp
  | append_singleton pre u ih =>
    rw [List.reverse_append, List.reverse_singleton, List.singleton_append, List.foldl_cons, ih, doubleN_spec,
      List.zipIdx_append, List.map_append, List.sum_append]
    simp only [List.zipIdx_cons, List.zipIdx_nil, List.map_cons, List.map_nil, List.sum_cons, List.sum_nil,
      List.length_append, List.length_singleton, Nat.zero_add, add_zero]
    rw [smul_add, ← mul_smul, ← pow_add, Nat.mul_add, Nat.mul_one]
    abel

/-- **Horner recombination.** With `c` doublings between chunks, the chunk totals `t₀, t₁, …`
(least significant first) combine to `Σ 2^(c·j) • t_j`. -/
theorem reduceChunks_spec (c : Nat) (chunks : List G) :
    reduceChunks (fun x => x + x) c chunks = ((List.zipIdx chunks).map fun e => (2 ^ (c * e.2)) • e.1).sum := by
  unfold reduceChunks
  rcases List.eq_nil_or_concat chunks with rfl | ⟨l, t, rfl⟩
  · simp
  · -- the top chunk is `t`; the rest is folded most significant first
    rw [List.concat_eq_append, List.reverse_append, List.reverse_singleton, List.singleton_append]
    simp only
    rw [horner_fold, List.zipIdx_append, List.map_append, List.sum_append]
    simp only [List.zipIdx_cons, List.zipIdx_nil, List.map_cons, List.map_nil, List.sum_cons, List.sum_nil,
      Nat.zero_add, add_zero]
    abel

/-- the pure recoding: digit `k` of `s` in base `2^c`, made signed by borrowing from the next -/
def recode (c : Nat) : Nat → Nat → Nat → List Int
  | 0, _, _ => []
  | n + 1, s, carry =>
    let d := s % 2 ^ c + carry
    if d ≥ 2 ^ (c - 1) then ((d : Int) - (2 ^ c : Nat)) :: recode c n (s / 2 ^ c) 1
    else (d : Int) :: recode c n (s / 2 ^ c) 0

/-- value of a digit string in base `2^c` -/
def digitsVal (c : Nat) : List Int → Int
  | [] => 0
  | d :: ds => d + (2 ^ c : Nat) * digitsVal c ds

/-- one step of `recode` with the borrow named -/
theorem recode_succ (c n s carry : Nat) :
    recode c (n + 1) s carry =
      (((s % 2 ^ c + carry : Nat) : Int) - ((if s % 2 ^ c + carry ≥ 2 ^ (c - 1) then 1 else 0 : Nat) : Int) * (2 ^ c : Nat))
        :: recode c n (s / 2 ^ c) (if s % 2 ^ c + carry ≥ 2 ^ (c - 1) then 1 else 0) := by
  rw [recode]
  split <;> simp [*]

/-- **Signed-digit recoding is exact.** For every window width `c ≥ 1`, every number of chunks
and every carry-in, the digits represent `s + carry` up to the final carry. -/
theorem recode_val (c : Nat) (hc : 0 < c) : ∀ (n s carry : Nat), carry ≤ 1 →
    ∃ cout : Nat, cout ≤ 1 ∧ digitsVal c (recode c n s carry) + (cout : Int) * ((2 ^ c : Nat) : Int) ^ n
      = ((s % (2 ^ c) ^ n : Nat) : Int) + carry ∧
      (n ≥ 1 → s / (2 ^ c) ^ (n - 1) % 2 ^ c + 1 < 2 ^ (c - 1) → cout = 0) := by
  intro n
  induction n with
  | zero =>
    intro s carry hcarry
    exact ⟨carry, hcarry, by simp [recode, digitsVal, Nat.mod_one], fun h => by omega⟩
  | succ n ih =>
    intro s carry hcarry
    have hsplit : s % (2 ^ c) ^ (n + 1) = s % 2 ^ c + 2 ^ c * (s / 2 ^ c % (2 ^ c) ^ n) := by
      rw [pow_succ', Nat.mod_mul]
    rw [recode_succ, digitsVal, hsplit]
    generalize hb : (if s % 2 ^ c + carry ≥ 2 ^ (c - 1) then 1 else 0) = b
    have hb1 : b ≤ 1 := by rw [← hb]; split <;> omega
    obtain ⟨cout, hco, hv, htop⟩ := ih (s / 2 ^ c) b hb1
    refine ⟨cout, hco, ?_, fun _ hlt => ?_⟩
    · push_cast
      push_cast at hv
      rw [pow_succ]
      linear_combination ((2 : Int) ^ c) * hv
    · cases n with
      | zero =>
        -- the only window is small: no borrow, and the empty tail returns the carry it is given
        rw [Nat.pow_zero, Nat.div_one] at hlt
        rw [if_neg (by omega)] at hb
        simp [recode, digitsVal, ← hb] at hv
        omega
      | succ m =>
        apply htop (by omega)
        simp only [Nat.add_sub_cancel] at hlt ⊢
        rw [Nat.div_div_eq_div_mul, ← pow_succ']
        exact hlt

end GoIpa.C09
