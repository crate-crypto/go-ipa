/-
  Tie T1 for `PrecompPoint.ScalarMul` (`banderwagon/precomp.go`): the body of the window loop,
  translated with Go's wrapping `uint64` operations (`u64add`, `u64sub`, `u64mul`, `u64shl`) and
  abstract group operations (Gen/Formulas.lean), is the model's `precompStep` — the object of
  `C05.precompScalarMul_spec` — for every window width `1 ≤ w < 64`, every limb and window
  position and every carry; and the function around it is the plain double loop over limbs and
  windows, which enumerates the windows `0 … 4·(64/w) − 1` in order.
-/
import GoIpa.Gen.Formulas
import GoIpa.Model.Precomp
import GoIpa.Lemmas.LoopLemmas
import GoIpa.Tie.Selector
namespace GoIpa.Tie.Precomp
open GoIpa GoIpa.Tie.Selector GoIpa.Gen

/-- the function consists of the conversion from Montgomery form, the two declarations and the
double loop; the limb loop contains the window loop and nothing else -/
theorem shape : Gen.precompShape =
    ["numWindowsInLimb := 64 / pp.windowSize", "scalar.FromMont()", "var carry uint64",
     "var pNeg bandersnatch.PointExtendedNormalized", "for l := 0; l < fr.Limbs; l++",
     "for w := 0; w < numWindowsInLimb; w++"] := rfl

/-! for operands in range the wrapping `uint64` operation is the plain one -/

theorem u64add_eq {a b : Nat} (h : a + b < 2 ^ 64) : u64add a b = a + b := by
  unfold u64add; exact Nat.mod_eq_of_lt h
theorem u64sub_eq {a b : Nat} (hb : b ≤ a) (ha : a < 2 ^ 64) : u64sub a b = a - b := by
  unfold u64sub; exact wrap_sub hb ha
theorem u64mul_eq {a b : Nat} (h : a * b < 2 ^ 64) : u64mul a b = a * b := by
  unfold u64mul; exact Nat.mod_eq_of_lt h
theorem u64shl_one {b : Nat} (h : b < 64) : u64shl 1 b = 2 ^ b := by
  unfold u64shl; rw [Nat.one_shiftLeft]; exact Nat.mod_eq_of_lt (Nat.pow_lt_pow_right (by omega) h)

variable {G : Type} [Add G] [Neg G]
theorem limbs_getD (s l : Nat) (hl : l < 4) : [limb s 0, limb s 1, limb s 2, limb s 3].getD l 0 = limb s l := by
  rcases l with _ | _ | _ | _ | l
  · rfl
  · rfl
  · rfl
  · rfl
  · omega

/-- **The body of the window loop of `PrecompPoint.ScalarMul`, translated with the wrapping operations, is the
model's `precompStep`** at window `l·(64/ws) + w`, for a carry `≤ 1`. -/
theorem precompBody_eq (ws : Nat) (hw1 : 1 ≤ ws) (hw : ws < 64) (tbl : Nat → Nat → G) (s l w : Nat) (hl : l < 4)
    (hwp : w < 64 / ws) (st : G × Nat) (hst : st.2 ≤ 1) :
    Gen.precompBody ws (64 / ws) tbl [limb s 0, limb s 1, limb s 2, limb s 3] l w st.1 st.2
      = precompStep ws tbl s st (l * (64 / ws) + w) := by
  obtain ⟨acc, carry⟩ := st
  have hc : carry ≤ 1 := hst
  have hper : 0 < 64 / ws := Nat.div_pos (by omega) (by omega)
  have hk1 : (l * (64 / ws) + w) / (64 / ws) = l := by
    rw [Nat.add_comm, Nat.add_mul_div_right _ _ hper, Nat.div_eq_of_lt hwp, Nat.zero_add]
  have hk2 : (l * (64 / ws) + w) % (64 / ws) = w := by
    rw [Nat.add_comm, Nat.add_mul_mod_self_right, Nat.mod_eq_of_lt hwp]
  have hpw : 2 ^ ws < 2 ^ 64 := Nat.pow_lt_pow_right (by omega) hw
  have hpos := Nat.two_pow_pos ws
  have hpos1 := Nat.two_pow_pos (ws - 1)
  have hhalf : 2 ^ ws = 2 * 2 ^ (ws - 1) := by rw [← Nat.pow_succ']; congr 1; omega
  have hww : ws * w < 64 := by
    have := Nat.mul_lt_mul_of_pos_left hwp (show 0 < ws by omega)
    have := Nat.mul_div_le 64 ws
    omega
  have hlw : l * (64 / ws) < 256 - w := by
    have h1 : 64 / ws ≤ 64 := Nat.div_le_self _ _
    have : l * (64 / ws) ≤ 3 * (64 / ws) := Nat.mul_le_mul_right _ (by omega)
    omega
  have hX : (limb s l >>> (ws * w)) &&& (2 ^ ws - 1) < 2 ^ ws := by
    rw [Nat.and_two_pow_sub_one_eq_mod]; exact Nat.mod_lt _ hpos
  unfold Gen.precompBody precompStep windowRaw
  simp (disch := omega) only [limbs_getD s l hl, hk1, hk2, Nat.one_shiftLeft, u64mul_eq, u64shl_one, u64sub_eq, u64add_eq,
    decide_eq_true_eq]
  split_ifs <;> rfl

/-- the double loop `for l < m { for w < n { f (l·n + w) } }` is the single loop over `m·n` windows -/
theorem fold_double {σ : Type} (f : σ → Nat → σ) (n m : Nat) (init : σ) :
    (List.range m).foldl (fun st l => (List.range n).foldl (fun st w => f st (l * n + w)) st) init
      = (List.range (m * n)).foldl f init := by
  induction m with
  | zero => simp
  | succ m ih =>
    rw [List.range_succ, List.foldl_append, ih, Nat.succ_mul, List.range_add, List.foldl_append, List.foldl_map]
    rfl

theorem precompStep_carry (ws : Nat) (tbl : Nat → Nat → G) (s : Nat) (st : G × Nat) (k : Nat) (h : st.2 ≤ 1) :
    (precompStep ws tbl s st k).2 ≤ 1 := by
  unfold precompStep
  dsimp only
  split
  · exact h
  · split <;> simp

/-- **The double loop of the code, with the translated body, is the model's `precompScalarMul`**
for every window width dividing 64 (the widths in use are 8 and 16). -/
theorem scalarMul_eq (ws : Nat) (hw1 : 1 ≤ ws) (hw : ws < 64) (hdvd : ws ∣ 64) (tbl : Nat → Nat → G) (s : Nat) (acc : G) :
    ((List.range 4).foldl (fun st l => (List.range (64 / ws)).foldl (fun st w =>
        Gen.precompBody ws (64 / ws) tbl [limb s 0, limb s 1, limb s 2, limb s 3] l w st.1 st.2) st) (acc, 0)).1
      = precompScalarMul ws tbl s acc := by
  unfold precompScalarMul
  rw [show 256 / ws = 4 * (64 / ws) from Nat.mul_div_assoc 4 hdvd, ← fold_double (precompStep ws tbl s) (64 / ws) 4 (acc, 0)]
  -- both double loops agree step by step on states with carry ≤ 1
  refine congrArg Prod.fst (Loop.foldl_congr_inv (fun st : G × Nat => st.2 ≤ 1) _ _ (acc, 0) 4 (Nat.zero_le _) ?_).1
  intro l st hl hst
  refine Loop.foldl_congr_inv (fun st : G × Nat => st.2 ≤ 1) _ _ st (64 / ws) hst fun w st hwp hst => ?_
  have e := precompBody_eq ws hw1 hw tbl s l w hl hwp st hst
  exact ⟨e, e ▸ precompStep_carry ws tbl s st _ hst⟩

end GoIpa.Tie.Precomp
