/-
  Tie T1 for the scalar-field loop code: the functions of `ipa/barycentric.go`, `ipa/config.go`,
  `common.PowersOf` and `fr.BatchInvert`, translated statement by statement from the current
  source (`Gen/Loops.lean`, regenerated on every run), are the functions of the hand-written model
  (`Model/Bary.lean`, `Model/Ipa.lean`) that the property theorems are about.

  The translated code is imperative in shape — slices written in place by counting loops with
  `continue`, interleaved updates of two positions — whereas the model is written with `map`,
  `zipWith` and folds; each theorem below is a loop-invariant proof that the two agree.
-/
import GoIpa.Gen.Loops
import GoIpa.Lemmas.LoopLemmas
import GoIpa.Model.Ipa
import GoIpa.Lemmas.BatchInvert
import Mathlib.Tactic.Ring
set_option linter.unusedSectionVars false
namespace GoIpa.Tie.Loops
open GoIpa GoIpa.Loop

variable {K : Type} [Zero K] [One K] [Add K] [Sub K] [Mul K] [Neg K] [Inv K] [NatCast K] [DecidableEq K]

/-! ### the index helpers -/

theorem absInt_eq (x : Int) : Gen.Loops.absInt x = (((GoIpa.absInt x).1 : Int), (GoIpa.absInt x).2) := by
  unfold Gen.Loops.absInt GoIpa.absInt
  by_cases h : x < 0
  · simp only [h, decide_true, ↓reduceIte]
    congr 1
    omega
  · simp only [h, decide_false, Bool.false_eq_true, ↓reduceIte]
    congr 1
    omega

theorem getInvertedElement_eq (bary invDom : List K) (element : Nat) (h1 : 1 ≤ element) (isNeg : Bool) :
    Gen.Loops.getInvertedElement bary invDom (element : Int) isNeg
      = (⟨bary, invDom⟩ : Weights K).invertedElement element isNeg := by
  unfold Gen.Loops.getInvertedElement Weights.invertedElement
  have e1 : ((element : Int) - 1) = ((element - 1 : Nat) : Int) := by omega
  have e2 : ((invDom.length : Int) / 2) = ((invDom.length / 2 : Nat) : Int) := by omega
  cases isNeg
  · simp only [Bool.false_eq_true, ↓reduceIte, e1]
    exact get_nat _ _ _
  · simp only [↓reduceIte, e1, e2]
    rw [← Nat.cast_add]
    exact get_nat _ _ _

theorem getRatioOfWeights_eq (bary invDom : List K) (num den : Nat) :
    Gen.Loops.getRatioOfWeights bary invDom (num : Int) (den : Int) = (⟨bary, invDom⟩ : Weights K).ratio num den := by
  unfold Gen.Loops.getRatioOfWeights Weights.ratio
  have e2 : ((bary.length : Int) / 2) = ((bary.length / 2 : Nat) : Int) := by omega
  simp only [e2]
  rw [← Nat.cast_add, get_nat, get_nat]

/-! ### `DivideOnDomain` -/

/-- the off-index quotient entries `q_i = (f_i − f_k) / (i − k)` as the model computes them -/
def qEntry (w : Weights K) (k : Nat) (f : List K) (i : Nat) : K :=
  if i = k then 0
  else (f.getD i 0 - f.getD k 0) * w.invertedElement (GoIpa.absInt ((i : Int) - (k : Int))).1 (GoIpa.absInt ((i : Int) - (k : Int))).2

theorem absInt_pos (i k : Nat) (h : i ≠ k) : 1 ≤ (GoIpa.absInt ((i : Int) - (k : Int))).1 := by
  unfold GoIpa.absInt
  by_cases hlt : (i : Int) - (k : Int) < 0
  · simp only [hlt, ↓reduceIte]; omega
  · simp only [hlt, ↓reduceIte]; omega

/-- **`DivideOnDomain` as written in Go — one loop that writes `quotient[i]` and at the same
time subtracts from `quotient[index]` — is the model's two-pass definition.** -/
theorem divideOnDomain_eq (w : Weights K) (k : Nat) (hk : k < 256) (f : List K) :
    Gen.Loops.divideOnDomain w.bary w.invDom (k : Int) f = w.divideOnDomain 256 k f := by
  unfold Gen.Loops.divideOnDomain
  simp only
  have h256 : ((256 : Int)) = ((256 : Nat) : Int) := rfl
  rw [h256, forUp_zero]
  -- the invariant after `n` iterations
  let qk : Nat → K := fun n => (List.range n).foldl (fun acc i =>
      if i = k then acc else acc - w.ratio k i * qEntry w k f i) 0
  generalize hres : List.foldl _ _ _ = res
  have inv : res.length = 256 ∧ res.getD k 0 = qk 256 ∧
      ∀ j, j < 256 → j ≠ k → res.getD j 0 = if j < 256 then qEntry w k f j else 0 := by
    rw [← hres]
    refine foldl_range_inv
      (fun n (q : List K) => q.length = 256 ∧ q.getD k 0 = qk n ∧
        ∀ j, j < 256 → j ≠ k → q.getD j 0 = if j < n then qEntry w k f j else 0) _ _ 256 ?_ ?_
    · refine ⟨List.length_replicate, ?_, ?_⟩
      · show (List.replicate 256 (0 : K)).getD k 0 = _
        rw [getD_replicate _ _ _ _ hk]; rfl
      · intro j hj _
        show (List.replicate 256 (0 : K)).getD j 0 = _
        rw [getD_replicate _ _ _ _ hj]; simp
    · intro n q hn ⟨hlen, hqk, hrest⟩
      by_cases hnk : n = k
      · -- the iteration at the division index does nothing
        subst hnk
        have : ¬ ((n : Int) ≠ (n : Int)) := by simp
        simp only [this, ↓reduceIte]
        refine ⟨hlen, ?_, ?_⟩
        · rw [hqk]
          show qk n = qk (n + 1)
          simp only [qk]
          rw [List.range_succ, List.foldl_append]
          simp
        · intro j hj hjk
          rw [hrest j hj hjk]
          have hiff : (j < n + 1) ↔ (j < n) := by omega
          simp only [hiff]
      · have hne : ((n : Int) ≠ (k : Int)) := by omega
        simp only [hne, ne_eq, not_false_eq_true, ↓reduceIte]
        rw [absInt_eq]
        simp only
        rw [getInvertedElement_eq _ _ _ (absInt_pos n k hnk), getRatioOfWeights_eq]
        simp only [get_nat, set_nat]
        -- the value written at position n
        have hn256 : n < q.length := by omega
        have hv : ((q.set n (f.getD n 0 - f.getD k 0)).getD n 0) = f.getD n 0 - f.getD k 0 := by
          rw [getD_set]; simp [hn256]
        rw [hv]
        have hq : (f.getD n 0 - f.getD k 0) *
            Weights.invertedElement ⟨w.bary, w.invDom⟩ (GoIpa.absInt ((n : Int) - (k : Int))).1 (GoIpa.absInt ((n : Int) - (k : Int))).2
            = qEntry w k f n := by
          unfold qEntry; rw [if_neg hnk]
        rw [hq]
        have hset2 : ((q.set n (f.getD n 0 - f.getD k 0)).set n (qEntry w k f n)) = q.set n (qEntry w k f n) := by
          rw [List.set_set]
        rw [hset2]
        have hvn : (q.set n (qEntry w k f n)).getD n 0 = qEntry w k f n := by
          rw [getD_set]; simp [hn256]
        have hvk : (q.set n (qEntry w k f n)).getD k 0 = q.getD k 0 := by
          rw [getD_set]; simp [hnk]
        rw [hvn, hvk]
        refine ⟨by simp [hlen], ?_, ?_⟩
        · rw [getD_set]
          simp only [List.length_set, hlen, hk, and_self, ↓reduceIte]
          rw [hqk]
          show _ = qk (n + 1)
          simp only [qk]
          rw [List.range_succ, List.foldl_append]
          simp [hnk]
        · intro j hj hjk
          rw [getD_set]
          have : ¬ (k = j ∧ k < (q.set n (qEntry w k f n)).length) := by
            intro h; exact hjk h.1.symm
          rw [if_neg this, getD_set]
          by_cases hjn : n = j
          · subst hjn
            simp [hn256]
          · have : ¬ (n = j ∧ n < q.length) := fun h => hjn h.1
            rw [if_neg this, hrest j hj hjk]
            have hiff : (j < n + 1) ↔ (j < n) := by omega
            simp only [hiff]
  obtain ⟨hlen, hqk, hrest⟩ := inv
  -- compare with the model pointwise
  unfold Weights.divideOnDomain
  simp only
  apply ext_getD _ _ (0 : K) (by rw [hlen, List.length_map, List.length_range])
  intro j hj
  rw [hlen] at hj
  rw [getD_map_range _ _ _ _ hj]
  have hqmap : ∀ i, i < 256 → ((List.range 256).map fun i =>
      if i = k then (0 : K) else
        match GoIpa.absInt ((i : Int) - (k : Int)) with
        | (absDen, isNeg) => (f.getD i 0 - f.getD k 0) * w.invertedElement absDen isNeg).getD i 0 = qEntry w k f i := by
    intro i hi
    rw [getD_map_range _ _ _ _ hi]
    unfold qEntry
    rfl
  by_cases hjk : j = k
  · subst hjk
    simp only [↓reduceIte]
    rw [hqk]
    show qk 256 = _
    simp only [qk]
    apply List.foldl_ext
    intro acc i hi
    have hi' : i < 256 := List.mem_range.mp hi
    by_cases hik : i = j
    · simp [hik]
    · simp only [hik, ↓reduceIte]
      rw [hqmap i hi']
  · simp only [hjk, ↓reduceIte]
    rw [hrest j hj hjk, if_pos hj, hqmap j hj]

/-! ### the vector helpers of `ipa/config.go` -/

/-- `InnerProd` -/
theorem innerProd_eq (a b : List K) (h : a.length = b.length) :
    Gen.Loops.innerProd a b = some (GoIpa.innerProd a b) := by
  unfold Gen.Loops.innerProd
  have hne : ¬ (((a.length : Nat) : Int) ≠ ((b.length : Nat) : Int)) := by simp [h]
  simp only [hne, ↓reduceIte]
  rw [forUp_zero]
  congr 1
  unfold GoIpa.innerProd sumF
  rw [zipWith_eq_range_map (· * ·) a b 0 0 h, List.foldl_map]
  apply List.foldl_ext
  intro acc i _
  simp only [get_nat]

/-- `foldScalars` -/
theorem foldScalars_eq (a b : List K) (x : K) (h : a.length = b.length) :
    Gen.Loops.foldScalars a b x = some (GoIpa.foldScalars a b x) := by
  unfold Gen.Loops.foldScalars GoIpa.foldScalars
  rw [if_neg (by simp [h]), zipWith_eq_range_map _ a b 0 0 h]
  simp only [forUp_zero, Int.toNat_natCast, get_nat, set_nat]
  congr 1
  exact foldl_set_map 0 (fun i _ => x * b.getD i 0 + a.getD i 0) _ _ _ List.length_replicate (fun _ _ _ _ => rfl)

theorem splitScalars_eq (x : List K) (h : x.length % 2 = 0) :
    Gen.Loops.splitScalars x = some (x.take (x.length / 2), x.drop (x.length / 2)) := by
  unfold Gen.Loops.splitScalars
  have hne : ¬ ((((x.length : Nat) : Int) % 2) ≠ 0) := by omega
  simp only [hne, ↓reduceIte]
  have e2 : ((x.length : Int) / 2) = ((x.length / 2 : Nat) : Int) := by omega
  simp only [e2, Loop.take, Loop.drop, Int.toNat_natCast]

section points
variable {G : Type} [Zero G] [Add G] [SMul K G]

/-- `foldPoints` -/
theorem foldPoints_eq (a b : List G) (x : K) (h : a.length = b.length) :
    Gen.Loops.foldPoints a b x = some (GoIpa.foldPoints a b x) := by
  unfold Gen.Loops.foldPoints GoIpa.foldPoints
  rw [if_neg (by simp [h]), zipWith_eq_range_map _ a b 0 0 h]
  simp only [forUp_zero, Int.toNat_natCast, get_nat, set_nat]
  congr 1
  exact foldl_set_map 0 (fun i _ => x • b.getD i 0 + a.getD i 0) _ _ _ List.length_replicate (fun _ _ _ _ => rfl)

theorem splitPoints_eq (x : List G) (h : x.length % 2 = 0) :
    Gen.Loops.splitPoints x = some (x.take (x.length / 2), x.drop (x.length / 2)) := by
  unfold Gen.Loops.splitPoints
  have hne : ¬ ((((x.length : Nat) : Int) % 2) ≠ 0) := by omega
  simp only [hne, ↓reduceIte]
  have e2 : ((x.length : Int) / 2) = ((x.length / 2 : Nat) : Int) := by omega
  simp only [e2, Loop.take, Loop.drop, Int.toNat_natCast]
end points

/-! ### `computeBarycentricWeightForElement`, `ComputeBarycentricCoefficients` -/

theorem foldl_skip {α β : Type} (l : List α) (p : α → Prop) [DecidablePred p] (f : β → α → β) (init : β) :
    l.foldl (fun acc x => if p x then acc else f acc x) init = (l.filter (fun x => ¬ p x)).foldl f init := by
  induction l generalizing init with
  | nil => rfl
  | cons x l ih =>
    by_cases hp : p x
    · simp [List.filter, hp, ih]
    · simp [List.filter, hp, ih]

/-- `A'(x_i)`: the product loop with `continue` at `i = element` is the model's filtered product -/
theorem baryWeight_eq (element : Nat) (h : element ≤ 256) :
    Gen.Loops.computeBarycentricWeightForElement (K := K) (element : Int) = baryWeight 256 element := by
  unfold Gen.Loops.computeBarycentricWeightForElement
  have hgt : ¬ ((element : Int) > 256) := by omega
  simp only [hgt, ↓reduceIte]
  have h256 : ((256 : Int)) = ((256 : Nat) : Int) := rfl
  rw [h256, forUp_zero]
  unfold baryWeight prodF
  rw [List.foldl_map]
  have : (List.range 256).foldl (fun (st : K) (k : Nat) =>
        if ((k : Int) = (element : Int)) then st
        else st * ((((element : Int).toNat : Nat) : K) - ((((k : Int).toNat : Nat)) : K))) 1
      = ((List.range 256).filter (fun k => ¬ (k = element))).foldl
          (fun (acc : K) (j : Nat) => acc * (((element : Nat) : K) - ((j : Nat) : K))) 1 := by
    rw [← foldl_skip (List.range 256) (fun k => k = element)]
    apply List.foldl_ext
    intro acc k _
    by_cases hk : k = element
    · simp [hk]
    · have : ¬ ((k : Int) = (element : Int)) := by omega
      simp [hk, this]
  convert this using 2

/-- `ComputeBarycentricCoefficients` (three loops and `BatchInvert`) over the model's batch inversion -/
theorem baryCoeffs_eq (w : Weights K) (z : K)
    (hbi : ∀ l : List K, Gen.Loops.batchInvert l = GoIpa.batchInvert l)
    (hlen : ∀ l : List K, (GoIpa.batchInvert l).length = l.length) :
    Gen.Loops.computeBarycentricCoefficients w.bary w.invDom z = w.baryCoeffs 256 z := by
  unfold Gen.Loops.computeBarycentricCoefficients Weights.baryCoeffs prodF
  simp only [show (256 : Int) = ((256 : Nat) : Int) from rfl, forUp_zero, Int.toNat_natCast, get_nat, set_nat]
  -- lagrangeEvals[i] = (z − i)·A'(i), written in two stores
  rw [foldl_set_map 0 (fun i _ => (z - ((i : Nat) : K)) * w.bary.getD i 0) _ _ 256 List.length_replicate
    (fun l i hi hl => by rw [List.set_set, getD_set_self _ _ _ _ (hl ▸ hi)]), hbi, List.foldl_map]
  -- every entry multiplied by the product
  exact foldl_set_eq_map 0 _ _ _ 256 (by rw [hlen, List.length_map, List.length_range]) (fun _ _ _ _ => rfl)

/-! ### `NewPrecomputedWeights` -/

set_option maxRecDepth 100000 in
/-- **The two tables `NewPrecomputedWeights` builds are the model's tables.** -/
theorem newPrecomputedWeights_eq :
    Gen.Loops.newPrecomputedWeights (K := K) = (baryWeightsTable 256, invertedDomainTable 256) := by
  unfold Gen.Loops.newPrecomputedWeights
  simp only
  have h256 : ((256 : Int)) = ((256 : Nat) : Int) := rfl
  have h1 : ((1 : Int)) = ((1 : Nat) : Int) := rfl
  rw [Prod.mk.injEq]
  constructor
  · -- A'(x_i) and 1/A'(x_i)
    rw [h256, forUp_zero]
    have hrep : (((256 : Nat) : Int) * 2).toNat = 2 * 256 := rfl
    rw [hrep]
    rw [foldl_two_blocks 256 (0 : K) (fun i => baryWeight 256 i) (fun i => (baryWeight 256 i : K)⁻¹)]
    · rfl
    · intro l k hk
      rw [baryWeight_eq k (by omega), ← Nat.cast_add, set_nat, set_nat]
  · -- 1/k and −1/k
    have h255 : ((256 : Int) - 1) = ((255 : Nat) : Int) := rfl
    rw [h255, h256, h1, forUp_nat 1 256]
    have hrep : (((255 : Nat) : Int) * 2).toNat = 2 * 255 := rfl
    rw [hrep]
    show List.foldl _ _ (List.range 255) = _
    rw [foldl_two_blocks 255 (0 : K) (fun i => (((i + 1 : Nat) : K))⁻¹) (fun i => (0 : K) - (((i + 1 : Nat) : K))⁻¹)]
    · rfl
    · intro l k hk
      have e1 : (((1 + k : Nat) : Int) - ((1 : Nat) : Int)) = ((k : Nat) : Int) := by omega
      have e2 : (((1 + k : Nat) : Int)).toNat = k + 1 := by omega
      rw [e1, e2, ← Nat.cast_add, set_nat, set_nat]

/-! ### `common.PowersOf` -/

/-- `x^j` without a monoid: `j` multiplications by `x` -/
def iterMul (x : K) (c : K) : Nat → K
  | 0 => c
  | j + 1 => iterMul x (c * x) j

theorem powersFrom_getD (x c : K) (n j : Nat) (hj : j < n) : (powersFrom x c n).getD j 0 = iterMul x c j := by
  induction n generalizing c j with
  | zero => omega
  | succ n ih =>
    cases j with
    | zero => simp [powersFrom, iterMul]
    | succ j =>
      simp only [powersFrom, List.getD_cons_succ, iterMul]
      exact ih (c * x) j (by omega)

theorem powersFrom_length (x c : K) (n : Nat) : (powersFrom x c n).length = n := by
  induction n generalizing c with
  | zero => rfl
  | succ n ih => simp [powersFrom, ih]

theorem iterMul_succ (x c : K) (j : Nat) : iterMul x c (j + 1) = iterMul x c j * x := by
  induction j generalizing c with
  | zero => rfl
  | succ j ih =>
    show iterMul x (c * x) (j + 1) = iterMul x (c * x) j * x
    exact ih (c * x)

/-- **`PowersOf`** (`result[i] = result[i-1]·x`) is the model's list of powers -/
theorem powersOf_eq (x : K) (n : Nat) (hn : 1 ≤ n) : Gen.Loops.powersOf x (n : Int) = GoIpa.powersOf x n := by
  unfold Gen.Loops.powersOf GoIpa.powersOf
  simp only
  have h1 : ((1 : Int)) = ((1 : Nat) : Int) := rfl
  have h0 : ((0 : Int)) = ((0 : Nat) : Int) := rfl
  rw [h1, forUp_nat 1 n, h0, set_nat, Int.toNat_natCast]
  have inv := foldl_range_inv
    (fun k (l : List K) => l.length = n ∧ ∀ j, j < n → l.getD j 0 = if j ≤ k then iterMul x 1 j else 0)
    (fun (st : List K) (k : Nat) => Loop.set st (((1 + k : Nat)) : Int)
      (Loop.get st ((((1 + k : Nat)) : Int) - ((1 : Nat) : Int)) 0 * x))
    ((List.replicate n (0 : K)).set 0 1) (n - 1)
    (by
      refine ⟨by simp, ?_⟩
      intro j hj
      rw [getD_set]
      by_cases hj0 : j = 0
      · subst hj0
        rw [if_pos ⟨rfl, by rw [List.length_replicate]; omega⟩]
        simp [iterMul]
      · have : ¬ (0 = j ∧ 0 < (List.replicate n (0 : K)).length) := fun hh => hj0 hh.1.symm
        rw [if_neg this, getD_replicate _ _ _ _ hj]
        have : ¬ (j ≤ 0) := by omega
        rw [if_neg this])
    (by
      intro k l hk ⟨hlen, hpt⟩
      have e1 : (((1 + k : Nat) : Int) - ((1 : Nat) : Int)) = ((k : Nat) : Int) := by omega
      rw [e1, get_nat, set_nat]
      refine ⟨by simp [hlen], ?_⟩
      intro j hj
      rw [getD_set]
      by_cases hjk : 1 + k = j
      · subst hjk
        rw [if_pos ⟨rfl, by omega⟩, hpt k (by omega), if_pos (Nat.le_refl k), if_pos (by omega)]
        have : 1 + k = k + 1 := by omega
        rw [this, iterMul_succ]
      · have : ¬ (1 + k = j ∧ 1 + k < l.length) := fun hh => hjk hh.1
        rw [if_neg this, hpt j hj]
        have hiff : (j ≤ k + 1) ↔ (j ≤ k) := by omega
        simp only [hiff])
  obtain ⟨hlen, hpt⟩ := inv
  apply ext_getD _ _ (0 : K) (by rw [hlen, powersFrom_length])
  intro j hj
  rw [hlen] at hj
  rw [hpt j hj, if_pos (by omega), powersFrom_getD x 1 n j hj]

/-! ### `fr.BatchInvert` — proved correct directly on the translated code -/

section field
variable {F : Type} [Field F] [DecidableEq F]

theorem forDown_nat {σ : Type} (n : Nat) (hn : 1 ≤ n) (st : σ) (body : Int → σ → σ) :
    Loop.forDown ((n : Int) - 1) 0 st body
      = (List.range n).foldl (fun st (k : Nat) => body (((n - 1 - k : Nat)) : Int) st) st := by
  unfold Loop.forDown
  have : ((n : Int) - 1 - 0 + 1).toNat = n := by omega
  rw [this]
  apply List.foldl_ext
  intro st k hk
  have hk' : k < n := List.mem_range.mp hk
  congr 1
  omega

/-- product of the non-zero entries among the first `j` -/
def pref (a : List F) (j : Nat) : F :=
  (List.range j).foldl (fun acc k => if a.getD k 0 = 0 then acc else acc * a.getD k 0) 1

theorem pref_succ (a : List F) (j : Nat) :
    pref a (j + 1) = if a.getD j 0 = 0 then pref a j else pref a j * a.getD j 0 := by
  unfold pref
  rw [List.range_succ, List.foldl_append]
  rfl

theorem pref_ne_zero (a : List F) (j : Nat) : pref a j ≠ 0 := by
  induction j with
  | zero => exact one_ne_zero
  | succ j ih =>
    rw [pref_succ]
    split
    · exact ih
    · exact mul_ne_zero ih ‹_›

/-- Montgomery's trick: an accumulator started at the inverse of the total product and multiplied,
going down, by the non-zero entries is after `k` steps the inverse of the product below -/
theorem pref_inv_down (a : List F) (n : Nat) : ∀ k, k ≤ n →
    (List.range k).foldl (fun acc j => if a.getD (n - 1 - j) 0 = 0 then acc else acc * a.getD (n - 1 - j) 0) (pref a n)⁻¹
      = (pref a (n - k))⁻¹ := by
  intro k
  induction k with
  | zero => intro _; rfl
  | succ k ih =>
    intro hk
    rw [List.range_succ, List.foldl_append, ih (by omega), show n - k = (n - 1 - k) + 1 by omega,
      show n - (k + 1) = n - 1 - k by omega, pref_succ]
    simp only [List.foldl_cons, List.foldl_nil]
    split
    · rfl
    · rw [mul_inv, mul_assoc, inv_mul_cancel₀ ‹_›, mul_one]

/-- the forward pass: zero flags, prefix products at the non-zero entries, total product -/
theorem batchInvert_fwd (a : List F) (n : Nat) (f : List Bool × List F × F → Nat → List Bool × List F × F)
    (hf : ∀ zs res acc k, f (zs, res, acc) k =
      if a.getD k 0 = 0 then (zs.set k true, res, acc) else (zs, res.set k acc, acc * a.getD k 0)) :
    (List.range n).foldl f (List.replicate n false, List.replicate n (0 : F), (1 : F))
    = ((List.range n).map fun j => decide (a.getD j 0 = 0),
       (List.range n).map (fun j => if a.getD j 0 = 0 then 0 else pref a j), pref a n) := by
  have hacc : ∀ j, (List.foldl f (List.replicate n false, List.replicate n (0 : F), (1 : F)) (List.range j)).2.2 = pref a j :=
    fun j => (List.foldl_hom (fun st : List Bool × List F × F => st.2.2) (by rintro ⟨z, r, c⟩ k; rw [hf]; split <;> rfl)).symm
  refine Prod.ext ?_ (Prod.ext ?_ (hacc n))
  · refine Eq.trans (foldl_write_up false (·.1) f (fun _ k old => if a.getD k 0 = 0 then true else old) _ n
      (by exact List.length_replicate) (by
        rintro ⟨z, r, c⟩ k _ _
        by_cases h : a.getD k 0 = 0
        · simp only [hf, if_pos h]
        · simp only [hf, if_neg h, set_getD_self])) ?_
    exact List.map_congr_left (fun j _ => by by_cases h : a.getD j 0 = 0 <;> simp only [getD_replicate_self, h, ↓reduceIte, decide_true, decide_false])
  · refine Eq.trans (foldl_write_up 0 (·.2.1) f (fun st k old => if a.getD k 0 = 0 then old else st.2.2) _ n
      (by exact List.length_replicate) (by
        rintro ⟨z, r, c⟩ k _ _
        by_cases h : a.getD k 0 = 0
        · simp only [hf, if_pos h, set_getD_self]
        · simp only [hf, if_neg h])) ?_
    simp only [getD_replicate_self, hacc]

/-- the backward pass turns the prefix products into the inverses -/
theorem batchInvert_bwd (a : List F) (n : Nat) (f : List F × F → Nat → List F × F)
    (hf : ∀ res acc k, k < n → f (res, acc) k =
      if a.getD (n - 1 - k) 0 = 0 then (res, acc)
      else (res.set (n - 1 - k) (res.getD (n - 1 - k) 0 * acc), acc * a.getD (n - 1 - k) 0)) :
    ((List.range n).foldl f ((List.range n).map (fun j => if a.getD j 0 = 0 then 0 else pref a j), (pref a n)⁻¹)).1
      = (List.range n).map (fun j => (a.getD j 0)⁻¹) := by
  refine Eq.trans (foldl_write_down 0 (·.1) f (fun st i old => if a.getD i 0 = 0 then old else old * st.2) _ n
      (by simp) (by
        rintro ⟨r, c⟩ k hk _
        by_cases h : a.getD (n - 1 - k) 0 = 0
        · simp only [hf _ _ _ hk, if_pos h, set_getD_self]
        · simp only [hf _ _ _ hk, if_neg h])) ?_
  apply List.map_congr_left
  intro i hi
  have hi := List.mem_range.mp hi
  have hk : n - 1 - i ≤ n := by omega
  rw [Eq.trans (foldl_proj (·.2) f _ _ n (by
      rintro ⟨r, c⟩ k hk
      rw [hf _ _ _ hk]
      split <;> rfl) _ hk) (pref_inv_down a n _ hk),
    getD_map_range _ _ _ _ hi, show n - (n - 1 - i) = i + 1 by omega, pref_succ]
  by_cases h : a.getD i 0 = 0
  · simp only [h, ↓reduceIte, inv_zero]
  · simp only [h, ↓reduceIte]
    rw [mul_inv, ← mul_assoc, mul_inv_cancel₀ (pref_ne_zero a i), one_mul]

/-- **`fr.BatchInvert`, as written in Go (two passes over index loops with `continue`, a `[]bool`
of zero flags, in-place products), returns the entry-wise inverse with zeros left at zero**, for
every input list — hence it is the model's `batchInvert`. -/
theorem batchInvert_spec (a : List F) : Gen.Loops.batchInvert a = a.map (·⁻¹) := by
  unfold Gen.Loops.batchInvert
  by_cases hn0 : a.length = 0
  · rw [List.eq_nil_of_length_eq_zero hn0]; rfl
  simp only [if_neg (show ¬ ((a.length : Int) = 0) by omega), forUp_zero, forDown_nat a.length (by omega),
    Int.toNat_natCast, get_nat, set_nat]
  rw [batchInvert_fwd a _ _ (by intros; rfl)]
  simp only
  rw [batchInvert_bwd a _ _ (by
    intro res acc k hk
    simp only [getD_map_range _ _ _ _ (show a.length - 1 - k < a.length by omega), decide_eq_true_eq])]
  exact map_range_getD a 0 (·⁻¹) _ rfl

/-- hence the translated `BatchInvert` is the model's -/
theorem batchInvert_eq (a : List F) : Gen.Loops.batchInvert a = GoIpa.batchInvert a := by
  rw [batchInvert_spec, batchInvert_eq_map]

/-- `ComputeBarycentricCoefficients`, unconditionally over a field -/
theorem baryCoeffs_eq_field (w : Weights F) (z : F) :
    Gen.Loops.computeBarycentricCoefficients w.bary w.invDom z = w.baryCoeffs 256 z :=
  baryCoeffs_eq w z batchInvert_eq batchInvert_length

end field

/-- nothing the translator emitted is left without a tie theorem (the protocol functions `commit`,
`generateChallenges`, `CreateIPAProof`, `CheckIPAProof`, `CheckMultiProof`, `domainToFr` are tied in `Tie/Protocol.lean`, `CreateMultiProof` in `Tie/ProtocolMp.lean`, `groupPolynomialsByEvaluationPoint` and its goroutine body in `Tie/Grouping.lean`, `computeBVector` in `Tie/BVector.lean`) -/
theorem all_translated_tied : Gen.Loops.translated =
    ["BatchInvert", "CheckIPAProof", "CheckMultiProof", "ComputeBarycentricCoefficients", "CreateIPAProof",
     "CreateMultiProof", "DivideOnDomain", "InnerProd", "NewPrecomputedWeights", "PowersOf", "absInt", "commit",
     "computeBVector", "computeBarycentricWeightForElement", "domainToFr", "foldPoints", "foldScalars", "generateChallenges",
     "getInvertedElement", "getRatioOfWeights", "groupPolynomialsByEvaluationPoint",
     "groupPolynomialsByEvaluationPointWorker", "splitPoints", "splitScalars"] := by decide

end GoIpa.Tie.Loops
