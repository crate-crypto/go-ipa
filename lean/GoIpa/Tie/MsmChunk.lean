/-
  Tie T1 for the group-level part of the bucket method (bandersnatch/multiexp.go):
  `msmProcessChunkPointAffineDMA` and `msmReduceChunkPointAffineDMA`, translated from the current
  source on every run (`go/cmd/extract/msmchunk.go` → `Gen/MsmChunk.lean`), are the model's
  `processChunk` and `reduceChunks` — the objects of `processChunk_spec`, `bucket_reduce`,
  `reduceChunks_spec` and, through them, of `C09.multiExp_correct`.

  The digit of scalar `i` is a parameter of the translation (`digit i`); it is instantiated with the
  model's `selectBits`, which `Tie.Selector.digitRead_eq` / `chunkSelector_eq` identify with the
  selector statements of the same Go function (translated with 64-bit wrap-around by selector.go).
-/
import GoIpa.Gen.MsmChunk
import GoIpa.Model.Pippenger
import GoIpa.Lemmas.LoopLemmas
import GoIpa.Lemmas.PipBits
import Mathlib.Algebra.Group.Basic
namespace GoIpa.Tie.MsmChunk
open GoIpa GoIpa.Loop

/-! ### loops as folds -/

theorem doubleN_loop {G : Type} (dbl : G → G) (c : Nat) (p : G) :
    (List.range c).foldl (fun st (_ : Nat) => dbl st) p = doubleN dbl c p := by
  induction c generalizing p with
  | zero => rfl
  | succ c ih =>
    rw [List.range_succ_eq_map, List.foldl_cons, List.foldl_map]
    exact ih (dbl p)

section
variable {K G : Type} [AddCommGroup G]

/-- **`msmReduceChunkPointAffineDMA`, translated from the source, is the model's `reduceChunks`**
(Horner combination from the top chunk down with `c` doublings in between) -/
theorem reduceChunk_eq (dbl : G → G) (p : G) (c : Nat) (chunks : List G) (hne : chunks ≠ []) :
    Gen.MsmChunk.reduceChunk dbl p (c : Int) chunks = reduceChunks dbl c chunks := by
  unfold Gen.MsmChunk.reduceChunk reduceChunks
  obtain ⟨ini, top, rfl⟩ : ∃ ini top, chunks = ini ++ [top] := by
    rcases List.eq_nil_or_concat chunks with h | ⟨l, a, h⟩
    · exact absurd h hne
    · exact ⟨l, a, by simpa using h⟩
  simp only [List.reverse_append, List.reverse_cons, List.reverse_nil, List.nil_append, List.singleton_append,
    List.length_append, List.length_cons, List.length_nil]
  have e1 : (((ini.length + (0 + 1) : Nat) : Int) - 1) = ((ini.length : Nat) : Int) := by omega
  have e2 : (((ini.length + (0 + 1) : Nat) : Int) - 2) = ((ini.length : Nat) : Int) - 1 := by omega
  rw [e1, e2, get_nat, forDown_nat]
  have e3 : (((ini.length : Nat) : Int) - 1 + 1).toNat = ini.length := by omega
  rw [e3]
  have htop : (ini ++ [top]).getD ini.length 0 = top := by
    simp [List.getD_eq_getElem?_getD]
  rw [htop]
  rw [← foldl_getD (fun acc t => doubleN dbl c acc + t) (0 : G) ini.reverse top, List.length_reverse]
  apply List.foldl_ext
  intro acc k hk
  have hk' : k < ini.length := List.mem_range.mp hk
  simp only [forUp_zero, doubleN_loop]
  have e4 : ((ini.length : Nat) : Int) - 1 - (k : Int) = ((ini.length - 1 - k : Nat) : Int) := by omega
  rw [e4, get_nat]
  congr 1
  simp only [List.getD_eq_getElem?_getD]
  rw [List.getElem?_append_left (by omega), List.getElem?_reverse hk']

/-! ### the bucket accumulation and the running-sum reduction -/

/-- for a digit below `2^c`, clearing the sign bit is masking with `2^(c-1) − 1` -/
theorem bandNot_msb (b c : Nat) (hc : 1 ≤ c) (hb : b < 2 ^ c) :
    b - (b &&& 2 ^ (c - 1)) = b &&& (2 ^ (c - 1) - 1) := by
  rw [Nat.and_two_pow_sub_one_eq_mod]
  have hpow : 2 ^ c = 2 * 2 ^ (c - 1) := by
    rw [← Nat.pow_succ']; congr 1; omega
  rcases Nat.lt_or_ge b (2 ^ (c - 1)) with hlt | hge
  · rw [PipBits.and_two_pow_of_lt b (c - 1) hlt, Nat.mod_eq_of_lt hlt]; rfl
  · obtain ⟨b', rfl⟩ : ∃ b', b = b' + 2 ^ (c - 1) := ⟨b - 2 ^ (c - 1), by omega⟩
    have hb' : b' < 2 ^ (c - 1) := by omega
    rw [← Nat.or_two_pow_eq_add_of_lt hb', PipBits.or_and_two_pow, Nat.or_two_pow_eq_add_of_lt hb', Nat.add_mod_right,
      Nat.mod_eq_of_lt hb']
    omega

theorem zip_getD {α β : Type} (a : List α) (b : List β) (da : α) (db : β) (k : Nat) (ha : k < a.length) (hb : k < b.length) :
    (List.zip a b).getD k (da, db) = (a.getD k da, b.getD k db) := by
  have hz : k < (List.zip a b).length := by rw [List.length_zip]; omega
  simp only [List.getD_eq_getElem?_getD, List.getElem?_eq_getElem ha, List.getElem?_eq_getElem hb,
    List.getElem?_eq_getElem hz, Option.getD_some, List.getElem_zip]

/-- the running-sum reduction: the downward loop over the buckets is the model's `foldr` -/
theorem runningSum_loop (bk : List G) :
    forDown (((bk.length : Nat) : Int) - 1) 0 ((0 : G), (0 : G)) (fun (k : Int) (st : G × G) =>
        (st.1 + Loop.get bk k 0, st.2 + (st.1 + Loop.get bk k 0)))
      = bk.foldr (fun (b : G) (st : G × G) => (st.1 + b, st.2 + (st.1 + b))) ((0 : G), (0 : G)) := by
  rw [forDown_nat]
  have e : (((bk.length : Nat) : Int) - 1 + 1).toNat = bk.length := by omega
  rw [e]
  have hr := List.foldl_reverse (l := bk) (f := fun (st : G × G) (b : G) => (st.1 + b, st.2 + (st.1 + b))) (b := ((0 : G), (0 : G)))
  rw [← hr, ← foldl_getD _ (0 : G) bk.reverse, List.length_reverse]
  apply List.foldl_ext
  intro st j hj
  have hj' : j < bk.length := List.mem_range.mp hj
  have e4 : ((bk.length : Nat) : Int) - 1 - (j : Int) = ((bk.length - 1 - j : Nat) : Int) := by omega
  rw [e4, get_nat]
  have : bk.reverse.getD j 0 = bk.getD (bk.length - 1 - j) 0 := by
    simp only [List.getD_eq_getElem?_getD]
    rw [List.getElem?_reverse hj']
  rw [this]

/-- **`msmProcessChunkPointAffineDMA`, translated from the source, is the model's `processChunk`**:
bucket array of any previous content and length `nb`, digits read by the model's `selectBits`
(below `2^c`), as many points as scalars -/
theorem processChunk_eq (dbl : G → G) (c nb k : Nat) (hc : 1 ≤ c) (buckets0 : List G) (hb0 : buckets0.length = nb)
    (points : List G) (parts : List (List Nat)) (scalars : List K)
    (hlen : points.length = parts.length) (hs : scalars.length = parts.length)
    (hbits : ∀ i, i < parts.length → selectBits c (parts.getD i []) k < 2 ^ c) :
    Gen.MsmChunk.processChunk dbl (fun i => ((selectBits c (parts.getD i.toNat []) k : Nat) : Int)) buckets0 (c : Int)
        points scalars
      = processChunk c nb k points parts := by
  unfold Gen.MsmChunk.processChunk processChunk
  have hmsb : Loop.shl 1 ((c : Int) - 1) = (((1 <<< (c - 1) : Nat)) : Int) := by
    unfold Loop.shl
    have : ((c : Int) - 1).toNat = c - 1 := by omega
    rw [this]; rfl
  simp only [hmsb, forUp_zero, set_nat, get_nat, hb0, hs]
  -- the bucket array is cleared
  rw [foldl_fill nb (0 : G) (fun _ => (0 : G)) buckets0 hb0, List.map_const', List.length_range]
  -- the accumulation loop
  have hacc : (List.range parts.length).foldl (fun (st : List G) (k_1 : Nat) =>
        if ((selectBits c (parts.getD ((k_1 : Int)).toNat []) k : Nat) : Int) = 0 then st
        else if Loop.band ((selectBits c (parts.getD ((k_1 : Int)).toNat []) k : Nat) : Int) (((1 <<< (c - 1) : Nat)) : Int) = 0 then
          Loop.set st (((selectBits c (parts.getD ((k_1 : Int)).toNat []) k : Nat) : Int) - 1)
            (points.getD k_1 0 + Loop.get st (((selectBits c (parts.getD ((k_1 : Int)).toNat []) k : Nat) : Int) - 1) 0)
        else
          Loop.set st (Loop.bandNot ((selectBits c (parts.getD ((k_1 : Int)).toNat []) k : Nat) : Int) (((1 <<< (c - 1) : Nat)) : Int))
            (Loop.get st (Loop.bandNot ((selectBits c (parts.getD ((k_1 : Int)).toNat []) k : Nat) : Int) (((1 <<< (c - 1) : Nat)) : Int)) 0
              + -points.getD k_1 0)) (List.replicate nb (0 : G))
      = (List.zip points parts).foldl (fun (b : List G) (e : G × List Nat) =>
        let bits := selectBits c e.2 k
        if bits = 0 then b
        else if bits &&& (1 <<< (c - 1)) = 0 then b.set (bits - 1) (e.1 + b.getD (bits - 1) 0)
        else
          let i := bits &&& ((1 <<< (c - 1)) - 1)
          b.set i (b.getD i 0 + -e.1)) (List.replicate nb 0) := by
    rw [← foldl_getD _ ((0 : G), ([] : List Nat)) (List.zip points parts)]
    have hzl : (List.zip points parts).length = parts.length := by simp [hlen]
    rw [hzl]
    apply List.foldl_ext
    intro st j hj
    have hj' : j < parts.length := List.mem_range.mp hj
    rw [zip_getD points parts 0 [] j (by omega) hj']
    simp only [Int.toNat_natCast]
    have hb := hbits j hj'
    generalize selectBits c (parts.getD j []) k = sb at hb ⊢
    by_cases h0 : sb = 0
    · have : ((sb : Nat) : Int) = 0 := by omega
      simp [h0]
    · have h0' : ¬ (((sb : Nat) : Int) = 0) := by omega
      rw [if_neg h0', if_neg h0]
      have hband : Loop.band ((sb : Nat) : Int) (((1 <<< (c - 1) : Nat)) : Int) = (((sb &&& (1 <<< (c - 1)) : Nat)) : Int) := by
        unfold Loop.band; simp only [Int.toNat_natCast]
      rw [hband]
      by_cases h1 : sb &&& (1 <<< (c - 1)) = 0
      · have h1' : (((sb &&& (1 <<< (c - 1)) : Nat)) : Int) = 0 := by omega
        rw [if_pos h1', if_pos h1]
        have e : ((sb : Nat) : Int) - 1 = ((sb - 1 : Nat) : Int) := by omega
        rw [e, set_nat, get_nat]
      · have h1' : ¬ ((((sb &&& (1 <<< (c - 1)) : Nat)) : Int) = 0) := by omega
        rw [if_neg h1', if_neg h1]
        have e : Loop.bandNot ((sb : Nat) : Int) (((1 <<< (c - 1) : Nat)) : Int) = ((sb &&& ((1 <<< (c - 1)) - 1) : Nat) : Int) := by
          unfold Loop.bandNot
          simp only [Int.toNat_natCast]
          rw [Nat.one_shiftLeft, bandNot_msb sb c hc hb]
        rw [e, set_nat, get_nat]
  rw [hacc]
  -- the running-sum reduction
  generalize (List.zip points parts).foldl _ (List.replicate nb (0 : G)) = bk
  have hrs := runningSum_loop bk
  have hbody : (fun (k : Int) (st : G × G) =>
      match st with
      | (runningSum, total) => (runningSum + Loop.get bk k 0, total + (runningSum + Loop.get bk k 0)))
      = (fun (k : Int) (st : G × G) => (st.1 + Loop.get bk k 0, st.2 + (st.1 + Loop.get bk k 0))) := by
    funext k st; cases st; rfl
  have hmodel : (fun (b : G) (st : G × G) =>
      let run := st.1 + b
      (run, st.2 + run)) = (fun (b : G) (st : G × G) => (st.1 + b, st.2 + (st.1 + b))) := rfl
  simp only [hbody, hrs, hmodel]

end

end GoIpa.Tie.MsmChunk
