/-
  Tie T1 for `groupPolynomialsByEvaluationPoint` (multiproof.go): the fan-out / fan-in function,
  translated from the current source on every run (`go/cmd/extract/goroutines.go` →
  `Gen/Loops.lean`: the goroutine body as `groupPolynomialsByEvaluationPointWorker`, the function
  itself with the two extra parameters `numCPU` — what `runtime.NumCPU()` returns — and `arrival` —
  the k-th receive yields the table sent by goroutine `arrival k`), **is** the model's `groupPolys`
  for that worker count and arrival order:

      groupPolynomials_eq :
        groupPolynomialsByEvaluationPoint w (k ↦ order[k]) fs pows zs = tableOf (groupPolys 256 fs pows zs w order)

  for every `w ≥ 1` and every arrival list of length `w` (the property theorems additionally ask
  for a permutation of `[0, w)`, which is what an unbuffered channel with one send per goroutine
  delivers).  With it the hypothesis `hgroup` of `createMultiProof_eq` /
  `multiproof_complete_translated` is discharged (`Props/C01Translated.lean`).
-/
import GoIpa.Tie.ProtocolMp
import GoIpa.Lemmas.Grouping
namespace GoIpa.Tie.Grouping
open GoIpa GoIpa.Loop GoIpa.Grouping GoIpa.Tie.ProtocolMp

variable {K : Type} [Field K] [DecidableEq K]

/-! ### rows of a table -/

/-- a loop that only rewrites row `z` of a table is a loop on that row -/
theorem foldl_row {α : Type} (n : Nat) (body : List α → Nat → List α) (z : Nat) :
    ∀ (T : List (List α)), z < T.length →
    (List.range n).foldl (fun (T : List (List α)) j => T.set z (body (T.getD z []) j)) T
      = T.set z ((List.range n).foldl body (T.getD z [])) := by
  induction n with
  | zero =>
    intro T hz
    simp only [List.range_zero, List.foldl_nil]
    apply ext_getD _ _ [] (by simp)
    intro j _
    rw [getD_set]
    by_cases h : z = j
    · subst h; simp [hz]
    · simp [h]
  | succ n ih =>
    intro T hz
    rw [List.range_succ, List.foldl_append, List.foldl_append, ih T hz]
    simp only [List.foldl_cons, List.foldl_nil]
    rw [getD_set_self _ _ _ _ hz, List.set_set]

theorem tableOf_set (g : Groups K) (z : Nat) (v : List K) : tableOf (g.set z (some v)) = (tableOf g).set z v := by
  unfold tableOf
  rw [List.map_set]; rfl

theorem tableOf_length (g : Groups K) : (tableOf g).length = g.length := by
  unfold tableOf; simp

theorem tableOf_empty : tableOf (Groups.empty 256 : Groups K) = List.replicate 256 ([] : List K) := by
  unfold tableOf Groups.empty
  rw [List.map_replicate]; rfl

/-- `v[j] += r·f[j]` over the whole vector -/
theorem scaledRow_loop (v f : List K) (r : K) (hv : v.length = 256) (hf : f.length = 256) :
    (List.range 256).foldl (fun (st : List K) (j : Nat) => st.set j (st.getD j 0 + r * f.getD j 0)) v
      = addVec v (scaleVec r f) := by
  rw [foldl_set_map 0 (fun j x => x + r * f.getD j 0) _ v 256 hv (fun _ _ _ _ => rfl)]
  unfold addVec scaleVec
  rw [zipWith_eq_range_map _ v (f.map (r * ·)) 0 0 (by rw [hv, List.length_map, hf]), hv]
  apply List.map_congr_left
  intro j hj
  have hj' : j < f.length := by rw [hf]; exact List.mem_range.mp hj
  simp [List.getD_eq_getElem?_getD, hj']

/-! ### one goroutine -/

/-- one iteration of the goroutine's loop, on natural-number indices -/
def goAccum (T : List (List K)) (z : Nat) (r : K) (f : List K) : List (List K) :=
  (List.range 256).foldl
    (fun (T : List (List K)) (j : Nat) => T.set z ((T.getD z []).set j ((T.getD z []).getD j 0 + r * f.getD j 0)))
    (if ((T.getD z []).length : Int) = 0 then T.set z (List.replicate 256 (0 : K)) else T)

theorem goAccum_eq (g : Groups K) (hg : WF 256 g) (z : Nat) (hz : z < 256) (r : K) (f : List K) (hf : f.length = 256) :
    goAccum (tableOf g) z r f = tableOf (Groups.accum 256 g z r f) := by
  obtain ⟨hl, hv⟩ := hg
  have hzl : z < (tableOf g).length := by rw [tableOf_length]; omega
  unfold goAccum Groups.accum
  rw [tableOf_set]
  cases hgz : g.getD z none with
  | none =>
    have h0 : (tableOf g).getD z [] = [] := by rw [tableOf_getD, hgz]; rfl
    rw [h0]
    simp only [List.length_nil, Int.natCast_zero, ↓reduceIte, Option.getD_none]
    rw [foldl_row 256 (fun row j => row.set j (row.getD j 0 + r * f.getD j 0)) z _ (by rw [List.length_set]; exact hzl)]
    rw [getD_set_self _ _ _ _ hzl, List.set_set, scaledRow_loop _ _ _ List.length_replicate hf]
  | some v =>
    have hvl := hv z v hgz
    have h0 : (tableOf g).getD z [] = v := by rw [tableOf_getD, hgz]; rfl
    rw [h0]
    have : ¬ ((v.length : Int) = 0) := by omega
    rw [if_neg this]
    simp only [Option.getD_some]
    rw [foldl_row 256 (fun row j => row.set j (row.getD j 0 + r * f.getD j 0)) z _ hzl, h0, scaledRow_loop _ _ _ hvl hf]

/-- the goroutine body, translated from the source, computes the model's per-worker table -/
theorem worker_eq (fs : List (List K)) (pows : List K) (zs : List Nat) (start stop : Nat)
    (hgood : Good 256 fs zs (List.range fs.length)) :
    Gen.Loops.groupPolynomialsByEvaluationPointWorker fs pows (zs.map (fun (z : Nat) => (z : Int))) (start : Int) (stop : Int)
      = tableOf (workerGroups 256 fs pows zs start stop) ∧ WF 256 (workerGroups 256 fs pows zs start stop) := by
  unfold Gen.Loops.groupPolynomialsByEvaluationPointWorker workerGroups
  have hend : (if ((stop : Int) > ((fs.length : Nat) : Int)) then ((fs.length : Nat) : Int) else (stop : Int))
      = ((min stop fs.length : Nat) : Int) := by
    split <;> omega
  simp only [hend]
  rw [forUp_nat, List.foldl_map]
  have h256 : ((256 : Int)).toNat = 256 := rfl
  rw [h256, ← tableOf_empty]
  set n := min stop fs.length - start with hn
  have inv := foldl_range_inv
    (fun k (T : List (List K)) =>
      T = tableOf ((List.range k).foldl (fun g (i : Nat) => Groups.accum 256 g (zs.getD (i + start) 0) (pows.getD (i + start) 0) (fs.getD (i + start) [])) (Groups.empty 256))
      ∧ WF 256 ((List.range k).foldl (fun g (i : Nat) => Groups.accum 256 g (zs.getD (i + start) 0) (pows.getD (i + start) 0) (fs.getD (i + start) [])) (Groups.empty 256)))
    (fun (st : List (List K)) (k : Nat) =>
      (fun (i : Int) (st : List (List K)) =>
        let groupedFs := st
        let z : Int := (Loop.get (zs.map (fun (z : Nat) => (z : Int))) i 0)
        let groupedFs :=
          if (((((Loop.get groupedFs z [])).length : Nat) : Int) = (0 : Int)) then
            let groupedFs : List (List K) := Loop.set groupedFs z (List.replicate ((256 : Int)).toNat (0 : K))
            groupedFs
          else groupedFs
        let groupedFs : List (List K) := Loop.forUp (0 : Int) (256 : Int) groupedFs (fun (j : Int) (st : List (List K)) =>
            let groupedFs := st
            let scaledEvaluation : K := 0
            let scaledEvaluation : K := (Loop.get pows i 0) * (Loop.get (Loop.get fs i []) j 0)
            let groupedFs : List (List K) := Loop.set groupedFs z (Loop.set (Loop.get groupedFs z []) j ((Loop.get (Loop.get groupedFs z []) j 0) + scaledEvaluation))
            groupedFs
          )
        groupedFs) (((start + k : Nat)) : Int) st)
    (tableOf (Groups.empty 256)) n
    ⟨rfl, wf_empty 256⟩
    (by
      intro k st hk ⟨hst, hwf⟩
      have hi : k + start < fs.length := by omega
      obtain ⟨hz, hf⟩ := hgood (k + start) (List.mem_range.mpr hi)
      rw [List.range_succ, List.foldl_append]
      simp only [List.foldl_cons, List.foldl_nil]
      refine ⟨?_, (accum_spec 256 _ hwf _ hz _ _ hf).1⟩
      rw [← goAccum_eq _ hwf _ hz _ _ hf, ← hst]
      simp only [get_nat, getD_map_cast, set_nat, h256]
      rw [show (256 : Int) = ((256 : Nat) : Int) from rfl, forUp_zero]
      simp only [get_nat, set_nat, Nat.add_comm start k]
      rfl)
  exact inv

/-! ### the fan-in -/

/-- the fan-in of one worker's table, on natural-number indices -/
def goMerge (T wk : List (List K)) : List (List K) :=
  (List.range wk.length).foldl (fun (T : List (List K)) (z : Nat) =>
    if (((wk.getD z []).length : Nat) : Int) = 0 then T
    else if T.getD z [] = [] then T.set z (wk.getD z [])
    else (List.range 256).foldl
      (fun (T : List (List K)) (j : Nat) => T.set z ((T.getD z []).set j ((T.getD z []).getD j 0 + (wk.getD z []).getD j 0))) T) T

theorem zipWith_getD {α β γ : Type} (f : α → β → γ) (a : List α) (b : List β) (da : α) (db : β) (dc : γ) (z : Nat)
    (ha : z < a.length) (hb : z < b.length) : (List.zipWith f a b).getD z dc = f (a.getD z da) (b.getD z db) := by
  simp [List.getD_eq_getElem?_getD, List.getElem?_zipWith, List.getElem?_eq_getElem ha, List.getElem?_eq_getElem hb]

theorem goMerge_eq (a b : Groups K) (ha : WF 256 a) (hb : WF 256 b) :
    goMerge (tableOf a) (tableOf b) = tableOf (mergeGroups a b) := by
  have hm := (merge_spec 256 a b ha hb).1
  unfold goMerge
  rw [tableOf_length, hb.1]
  rw [foldl_set_map ([] : List K)
    (fun z row => if ((((tableOf b).getD z []).length : Nat) : Int) = 0 then row
      else if row = [] then (tableOf b).getD z []
      else (List.range 256).foldl (fun (st : List K) (j : Nat) => st.set j (st.getD j 0 + ((tableOf b).getD z []).getD j 0)) row)
    _ (tableOf a) 256 (by rw [tableOf_length, ha.1])
    (by
      intro l i hi hl
      by_cases h1 : ((((tableOf b).getD i []).length : Nat) : Int) = 0
      · simp only [h1, ↓reduceIte, set_getD_self]
      · by_cases h2 : l.getD i [] = []
        · simp only [h1, h2, ↓reduceIte]
        · simp only [h1, h2, ↓reduceIte]
          exact foldl_row 256 (fun row j => row.set j (row.getD j 0 + ((tableOf b).getD i []).getD j 0)) i l (by omega))]
  apply ext_getD _ _ ([] : List K) (by rw [List.length_map, List.length_range, tableOf_length, hm.1])
  intro z hz
  rw [List.length_map, List.length_range] at hz
  rw [getD_map_range _ _ _ _ hz, tableOf_getD, tableOf_getD, tableOf_getD]
  unfold mergeGroups
  rw [zipWith_getD _ a b none none none z (by rw [ha.1]; exact hz) (by rw [hb.1]; exact hz)]
  cases hbz : b.getD z none with
  | none => simp
  | some v =>
    have hvl := hb.2 z v hbz
    have hv0 : ¬ (((v.length : Nat) : Int) = 0) := by omega
    cases haz : a.getD z none with
    | none => simp
    | some u =>
      have hul := ha.2 z u haz
      have hu0 : ¬ (u = []) := by intro h; rw [h] at hul; simp at hul
      simp only [Option.getD_some, hv0, ↓reduceIte, hu0]
      exact addVec_loop u v hul hvl

/-- **`groupPolynomialsByEvaluationPoint`, translated from the source, is the model's `groupPolys`**
for the worker count `runtime.NumCPU()` returned and the order in which the workers' tables arrived. -/
theorem groupPolynomials_eq (fs : List (List K)) (pows : List K) (zs : List Nat)
    (hgood : Good 256 fs zs (List.range fs.length)) (w : Nat) (hw : 1 ≤ w) (order : List Nat) (hlen : order.length = w) :
    Gen.Loops.groupPolynomialsByEvaluationPoint (w : Int) (fun k => ((order.getD k.toNat 0 : Nat) : Int)) fs pows
        (zs.map (fun (z : Nat) => (z : Int)))
      = tableOf (groupPolys 256 fs pows zs w order) := by
  unfold Gen.Loops.groupPolynomialsByEvaluationPoint groupPolys
  have hb : ((((fs.length : Nat) : Int) + (w : Int)) - (1 : Int)) / (w : Int) = (((fs.length + w - 1) / w : Nat) : Int) := by
    rw [Int.natCast_div]
    congr 1
    omega
  simp only [hb]
  set batch := (fs.length + w - 1) / w with hbatch
  have h256 : ((256 : Int)).toNat = 256 := rfl
  rw [h256, ← tableOf_empty, forUp_zero]
  let step : Groups K → Nat → Groups K := fun agg i => mergeGroups agg (workerGroups 256 fs pows zs (i * batch) ((i + 1) * batch))
  have hfull : order.take w = order := by rw [← hlen]; exact List.take_length
  refine Eq.trans (foldl_range_inv
    (fun k (T : List (List K)) => T = tableOf ((order.take k).foldl step (Groups.empty 256))
      ∧ WF 256 ((order.take k).foldl step (Groups.empty 256)))
    _ _ w ⟨by simp, by simpa using wf_empty 256⟩ ?_).1 (by rw [hfull])
  intro k st hk ⟨hst, hwf⟩
  have hk' : k < order.length := by omega
  have htake : order.take (k + 1) = order.take k ++ [order.getD k 0] := by
    rw [List.take_add_one, List.getD_eq_getElem?_getD, List.getElem?_eq_getElem hk']; simp
  rw [htake, List.foldl_append]
  simp only [List.foldl_cons, List.foldl_nil]
  set o := order.getD k 0 with ho
  have hwk := worker_eq fs pows zs (o * batch) ((o + 1) * batch) hgood
  refine ⟨?_, (merge_spec 256 _ _ hwf hwk.2).1⟩
  show _ = tableOf (mergeGroups _ _)
  rw [← goMerge_eq _ _ hwf hwk.2, ← hst, ← hwk.1]
  simp only [Int.toNat_natCast, ← ho]
  have e1 : ((o : Nat) : Int) * ((batch : Nat) : Int) = ((o * batch : Nat) : Int) := by push_cast; rfl
  have e2 : (((o : Nat) : Int) + 1) * ((batch : Nat) : Int) = (((o + 1) * batch : Nat) : Int) := by push_cast; rfl
  rw [e1, e2]
  unfold goMerge
  rw [forUp_zero]
  simp only [get_nat, set_nat]
  rw [show (256 : Int) = ((256 : Nat) : Int) from rfl]
  simp only [forUp_zero, get_nat, set_nat]

end GoIpa.Tie.Grouping
