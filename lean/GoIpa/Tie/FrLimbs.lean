/-
  Tie T1 for the limb code: the definitions translated from `bandersnatch/fr/arith.go` and the
  `_xxxGeneric` functions of `element.go` (Gen/FrLimbs.lean, regenerated on every run) are equal,
  as functions, to the model `GoIpa.Limbs` on which the C15 limb theorems are stated — for the
  plain call, where the previous content of the destination is irrelevant, and for every way the
  destination may alias an operand.

  Translated code and model differ in two places only: the translated conditional subtraction tests
  `!(z < q)` where the model tests `z < q` (`reduce_piece`), and the translated add-back is a function
  of its own (`sub_piece`).  Everything else — the rounds, the chains, every aliasing variant, which
  reads its operands limb by limb before the destination is written — unfolds to the same term.
-/
import GoIpa.Gen.FrLimbs
import GoIpa.Lemmas.Limbs4
namespace GoIpa.Tie.FrLimbs
open GoIpa GoIpa.Limbs

-- the comparisons below are between programs, not values: keep the word primitives closed
attribute [local irreducible] sub64 add64 mul64

theorem madd0_eq (a b c : Nat) : Gen.madd0 a b c = madd0 a b c := rfl
theorem madd1_eq (a b c : Nat) : Gen.madd1 a b c = madd1 a b c := rfl
theorem madd2_eq (a b c d : Nat) : Gen.madd2 a b c d = madd2 a b c d := rfl
theorem madd3_eq (a b c d e : Nat) : Gen.madd3 a b c d e = madd3 a b c d e := rfl

/-! ### the conditional subtraction that ends every routine -/

theorem reduce_piece (z : L4) : Gen.reduceGeneric_i0 z = reduceG z := by
  unfold Gen.reduceGeneric_i0 reduceG
  by_cases h : ltQ z
  · erw [if_neg (not_not_intro h), if_pos h]
  · erw [if_pos h, if_neg h]; rfl

theorem reduceGeneric_eq (z : L4) : Gen.reduceGeneric z = reduceG z := reduce_piece z

/-! ### `_mulGeneric` -/

theorem mul_b0 (x y : L4) : Gen.mulGeneric_b0 x y = mulRound x.l0 y ⟨0, 0, 0, 0⟩ true := rfl
theorem mul_b1 (x y t : L4) : Gen.mulGeneric_b1 x y t = mulRound x.l1 y t false := rfl
theorem mul_b2 (x y t : L4) : Gen.mulGeneric_b2 x y t = mulRound x.l2 y t false := rfl
theorem mul_b3 (x y t : L4) : Gen.mulGeneric_b3 x y t = mulRound x.l3 y t false := rfl

/-- **`_mulGeneric` is the model's `mulG`**, whatever the destination held before -/
theorem mulGeneric_eq (z x y : L4) : Gen.mulGeneric z x y = mulG x y := reduce_piece _

/-- aliasing: the rounds read their operands limb by limb before the destination limb is
written, so the blocks are literally the same functions -/
theorem mul_alias_pieces :
    (∀ z y, Gen.mulGeneric_zx_b0 z y = Gen.mulGeneric_b0 z y) ∧
    (∀ z y t, Gen.mulGeneric_zx_b1 z y t = Gen.mulGeneric_b1 z y t) ∧
    (∀ z y t, Gen.mulGeneric_zx_b2 z y t = Gen.mulGeneric_b2 z y t) ∧
    (∀ z y t, Gen.mulGeneric_zx_b3 z y t = Gen.mulGeneric_b3 z y t) ∧
    (∀ x z, Gen.mulGeneric_zy_b0 x z = Gen.mulGeneric_b0 x z) ∧
    (∀ x z t, Gen.mulGeneric_zy_b1 x z t = Gen.mulGeneric_b1 x z t) ∧
    (∀ x z t, Gen.mulGeneric_zy_b2 x z t = Gen.mulGeneric_b2 x z t) ∧
    (∀ x z t, Gen.mulGeneric_zy_b3 x z t = Gen.mulGeneric_b3 x z t) ∧
    (∀ z, Gen.mulGeneric_zxy_b0 z = Gen.mulGeneric_b0 z z) ∧
    (∀ z t, Gen.mulGeneric_zxy_b1 z t = Gen.mulGeneric_b1 z z t) ∧
    (∀ z t, Gen.mulGeneric_zxy_b2 z t = Gen.mulGeneric_b2 z z t) ∧
    (∀ z t, Gen.mulGeneric_zxy_b3 z t = Gen.mulGeneric_b3 z z t) :=
  ⟨fun _ _ => rfl, fun _ _ _ => rfl, fun _ _ _ => rfl, fun _ _ _ => rfl,
   fun _ _ => rfl, fun _ _ _ => rfl, fun _ _ _ => rfl, fun _ _ _ => rfl,
   fun _ => rfl, fun _ _ => rfl, fun _ _ => rfl, fun _ _ => rfl⟩

theorem mulGeneric_zx_eq (x y : L4) : Gen.mulGeneric_zx x y = mulG x y := reduce_piece _
theorem mulGeneric_zy_eq (y x : L4) : Gen.mulGeneric_zy y x = mulG x y := reduce_piece _
theorem mulGeneric_zxy_eq (x : L4) : Gen.mulGeneric_zxy x = mulG x x := reduce_piece _

/-! ### `_fromMontGeneric` -/

theorem fm_b0 (z : L4) : Gen.fromMontGeneric_b0 z = fromMontRound z := rfl

theorem fromMontGeneric_eq (z : L4) : Gen.fromMontGeneric z = fromMontG z := reduce_piece _

/-! ### `_addGeneric`, `_doubleGeneric` -/

theorem addGeneric_eq (z x y : L4) : Gen.addGeneric z x y = addG x y := reduce_piece (add4 x y).1
theorem addGeneric_zx_eq (x y : L4) : Gen.addGeneric_zx x y = addG x y := reduce_piece (add4 x y).1
theorem addGeneric_zy_eq (y x : L4) : Gen.addGeneric_zy y x = addG x y := reduce_piece (add4 x y).1
theorem addGeneric_zxy_eq (x : L4) : Gen.addGeneric_zxy x = addG x x := reduce_piece (add4 x x).1
theorem doubleGeneric_eq (z x : L4) : Gen.doubleGeneric z x = doubleG x := reduce_piece (add4 x x).1
theorem doubleGeneric_zx_eq (x : L4) : Gen.doubleGeneric_zx x = doubleG x := reduce_piece (add4 x x).1

/-! ### `_subGeneric` -/

/-- the add-back of `q` when the subtraction borrowed -/
theorem sub_piece (x y : L4) : Gen.subGeneric_i0 (sub4 x y).2 (sub4 x y).1 = subG x y := by
  rw [subG_eq]
  unfold Gen.subGeneric_i0
  by_cases h : (sub4 x y).2 ≠ 0
  · rw [if_pos h, if_pos h]; rfl
  · rw [if_neg h, if_neg h]

theorem subGeneric_eq (z x y : L4) : Gen.subGeneric z x y = subG x y := sub_piece x y
theorem subGeneric_zx_eq (x y : L4) : Gen.subGeneric_zx x y = subG x y := sub_piece x y
theorem subGeneric_zy_eq (y x : L4) : Gen.subGeneric_zy y x = subG x y := sub_piece x y
theorem subGeneric_zxy_eq (x : L4) : Gen.subGeneric_zxy x = subG x x := sub_piece x x

/-! ### `_negGeneric` -/

theorem isZero_iff (x : L4) : ((((x.l3 ||| x.l2) ||| x.l1) ||| x.l0) = 0) ↔ (x.l0 = 0 ∧ x.l1 = 0 ∧ x.l2 = 0 ∧ x.l3 = 0) := by
  simp only [Nat.or_eq_zero_iff]
  constructor
  · rintro ⟨⟨⟨a, b⟩, c⟩, d⟩; exact ⟨d, c, b, a⟩
  · rintro ⟨d, c, b, a⟩; exact ⟨⟨⟨a, b⟩, c⟩, d⟩

theorem negGeneric_eq (z x : L4) : Gen.negGeneric z x = negG x := by
  unfold Gen.negGeneric negG
  by_cases h : x.l0 = 0 ∧ x.l1 = 0 ∧ x.l2 = 0 ∧ x.l3 = 0
  · rw [if_pos ((isZero_iff x).mpr h), if_pos h]
  · rw [if_neg (mt (isZero_iff x).mp h), if_neg h]
    rfl

theorem negGeneric_zx_eq (x : L4) : Gen.negGeneric_zx x = negG x := negGeneric_eq x x

end GoIpa.Tie.FrLimbs
