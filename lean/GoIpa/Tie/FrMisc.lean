/-
  Tie T1 for C15, the part of `bandersnatch/fr/element.go` outside the limb routines and the byte
  codecs: `Set`, `SetOne`, `Equal`, `IsZero`, `Cmp`, `LexicographicallyLargest`, `Exp`, `Legendre`,
  translated statement by statement from the current source (`Gen/FrMisc.lean`).  Proved here, on
  the translated code, for all limb vectors:

  * `Set` copies, `SetOne` stores the Montgomery form of 1, `Equal` / `IsZero` decide equality of limbs;
  * `Cmp` compares the regular (non-Montgomery) values; `LexicographicallyLargest` ⇔ value > (r−1)/2;
  * `Exp(x, e)` on a Montgomery representation of `a` is a fully reduced Montgomery representation
    of `a^e` (square-and-multiply from the most significant bit, every exponent `e ≥ 0`);
  * `Legendre` is Euler's criterion: 0, 1 or −1 according to `a^((r−1)/2) mod r`.
-/
import GoIpa.Gen.FrMisc
import GoIpa.Tie.FrCodecEnc
namespace GoIpa.Tie.FrMisc
open GoIpa GoIpa.Limbs GoIpa.Cios GoIpa.Gen.FrCodec GoIpa.Gen.FrMisc GoIpa.Tie.FrCodec

attribute [local irreducible] sub64 add64

/-- the Montgomery form of 1 (`SetOne`) -/
def oneL : L4 := ⟨6347764673676886264, 253265890806062196, 11064306276430008312, 1739710354780652911⟩

theorem one_repr : Cios.Repr oneL 1 ∧ oneL.val < R ∧ oneL.ok := by
  refine ⟨?_, ?_, ?_⟩
  · unfold Cios.Repr; decide +kernel
  · decide +kernel
  · unfold L4.ok; decide +kernel

theorem legendreExponent_eq : legendreExponent = (((R - 1) / 2 : Nat) : Int) := by decide +kernel

theorem set_eq (z x : L4) : go_Set z x = x := by
  obtain ⟨x0, x1, x2, x3⟩ := x
  simp [go_Set, Big.setLimb, Big.limb]

theorem setOne_eq (z : L4) : go_SetOne z = oneL := by
  simp [go_SetOne, Big.setLimb, oneL]

theorem equal_iff (z x : L4) : go_Equal z x = true ↔ z = x := by
  obtain ⟨z0, z1, z2, z3⟩ := z
  obtain ⟨x0, x1, x2, x3⟩ := x
  have e : go_Equal ⟨z0, z1, z2, z3⟩ ⟨x0, x1, x2, x3⟩ = decide (((z3 = x3 ∧ z2 = x2) ∧ z1 = x1) ∧ z0 = x0) := rfl
  rw [e, decide_eq_true_eq, L4.mk.injEq]
  omega

theorem isZero_iff (z : L4) : go_IsZero z = true ↔ z = ⟨0, 0, 0, 0⟩ := by
  obtain ⟨z0, z1, z2, z3⟩ := z
  have e : go_IsZero ⟨z0, z1, z2, z3⟩ = decide (((z3 ||| z2) ||| z1) ||| z0 = 0) := rfl
  rw [e, decide_eq_true_eq, L4.mk.injEq]
  simp only [Nat.or_eq_zero_iff]
  omega

/-- lexicographic comparison of limbs, most significant first, is comparison of the values -/
theorem cmp_limbs (a b : L4) (ha : a.ok) (hb : b.ok) :
    (if a.l3 > b.l3 then (1 : Int) else if a.l3 < b.l3 then -1 else
     if a.l2 > b.l2 then 1 else if a.l2 < b.l2 then -1 else
     if a.l1 > b.l1 then 1 else if a.l1 < b.l1 then -1 else
     if a.l0 > b.l0 then 1 else if a.l0 < b.l0 then -1 else 0) = Big.cmp (a.val : Int) (b.val : Int) := by
  exact (cmp_val ha hb).symm

/-- the comparison chain of `Cmp`, on the converted operands -/
def cmpCore (_z _x : L4) : Int :=
  if ((Big.limb _z (3 : Int)) > (Big.limb _x (3 : Int))) then (1 : Int)
  else if ((Big.limb _z (3 : Int)) < (Big.limb _x (3 : Int))) then (-(1 : Int))
  else if ((Big.limb _z (2 : Int)) > (Big.limb _x (2 : Int))) then (1 : Int)
  else if ((Big.limb _z (2 : Int)) < (Big.limb _x (2 : Int))) then (-(1 : Int))
  else if ((Big.limb _z (1 : Int)) > (Big.limb _x (1 : Int))) then (1 : Int)
  else if ((Big.limb _z (1 : Int)) < (Big.limb _x (1 : Int))) then (-(1 : Int))
  else if ((Big.limb _z (0 : Int)) > (Big.limb _x (0 : Int))) then (1 : Int)
  else if ((Big.limb _z (0 : Int)) < (Big.limb _x (0 : Int))) then (-(1 : Int))
  else (0 : Int)

/-- `Cmp` converts both operands out of Montgomery form and runs the chain -/
theorem cmp_unfold (z x : L4) : go_Cmp z x = cmpCore (fromMontG z) (fromMontG x) := rfl

theorem cmpCore_eq (a b : L4) (ha : a.ok) (hb : b.ok) : cmpCore a b = Big.cmp (a.val : Int) (b.val : Int) := by
  rw [← cmp_limbs a b ha hb]
  obtain ⟨a0, a1, a2, a3⟩ := a
  obtain ⟨b0, b1, b2, b3⟩ := b
  rfl

/-- **`Cmp`** compares the regular values of its operands -/
theorem cmp_spec (z x : L4) (hz : z.ok) (hx : x.ok) :
    go_Cmp z x = Big.cmp ((fromMontG z).val : Int) ((fromMontG x).val : Int) := by
  obtain ⟨zok, _, _⟩ := fromMontG_correct z hz
  obtain ⟨xok, _, _⟩ := fromMontG_correct x hx
  rw [cmp_unfold, cmpCore_eq _ _ zok xok]

/-- `(r − 1)/2 + 1`, the constant `LexicographicallyLargest` subtracts -/
def halfL : L4 := ⟨13438322763177358321, 9207542918679396920, 461402362329971456, 1044189607433056169⟩

theorem halfL_ok : halfL.ok ∧ halfL.val = (R - 1) / 2 + 1 := by
  unfold L4.ok
  decide

/-- the borrow chain of `LexicographicallyLargest`: no borrow out of `a − halfL` ⇔ `halfL ≤ a` -/
theorem lex_limbs (a : L4) (ha : a.ok) :
    ((sub64 a.l3 1044189607433056169 (sub64 a.l2 461402362329971456 (sub64 a.l1 9207542918679396920
      (sub64 a.l0 13438322763177358321 0).2).2).2).2 = 0) ↔ (R - 1) / 2 < a.val := by
  show (sub4 a halfL).2 = 0 ↔ _
  rw [sub4_borrow ha halfL_ok.1, halfL_ok.2]
  split <;> omega

/-- the borrow chain of `LexicographicallyLargest`, on the converted operand -/
def lexCore (_z : L4) : Bool :=
  let b : Nat := 0
  let b := (sub64 (Big.limb _z (0 : Int)) (13438322763177358321 : Nat) (0 : Nat)).2
  let b := (sub64 (Big.limb _z (1 : Int)) (9207542918679396920 : Nat) b).2
  let b := (sub64 (Big.limb _z (2 : Int)) (461402362329971456 : Nat) b).2
  let b := (sub64 (Big.limb _z (3 : Int)) (1044189607433056169 : Nat) b).2
  decide (b = (0 : Nat))

theorem lex_unfold (z : L4) : go_LexicographicallyLargest z = lexCore (fromMontG z) := rfl

theorem lexCore_iff (a : L4) (ha : a.ok) : lexCore a = true ↔ (R - 1) / 2 < a.val := by
  rw [← lex_limbs a ha]
  obtain ⟨a0, a1, a2, a3⟩ := a
  exact decide_eq_true_iff

/-- **`LexicographicallyLargest`** ⇔ the regular value is larger than `(r − 1)/2` -/
theorem lexLargest_iff (z : L4) (hz : z.ok) :
    go_LexicographicallyLargest z = true ↔ (R - 1) / 2 < (fromMontG z).val := by
  obtain ⟨zok, _, _⟩ := fromMontG_correct z hz
  rw [lex_unfold, lexCore_iff _ zok]

/-! ### `Exp` -/

/-- one iteration of square-and-multiply on Montgomery representations -/
theorem exp_step (z x : L4) (a m bit : Nat) (hz : z.ok) (hzr : z.val < R) (hx : x.ok) (hxr : x.val < R)
    (rz : Cios.Repr z (a ^ m)) (rx : Cios.Repr x a) :
    Cios.Repr (if bit = 1 then mulG (mulG z z) x else mulG z z) (a ^ (2 * m + (if bit = 1 then 1 else 0))) ∧
      (if bit = 1 then mulG (mulG z z) x else mulG z z).val < R ∧ (if bit = 1 then mulG (mulG z z) x else mulG z z).ok := by
  obtain ⟨r1, l1, o1⟩ := mulG_repr z z (a ^ m) (a ^ m) hz hz hzr rz rz
  have e1 : a ^ m * a ^ m = a ^ (2 * m) := by rw [← Nat.pow_add]; congr 1; omega
  rw [e1] at r1
  by_cases hb : bit = 1
  · simp only [hb, if_true]
    obtain ⟨r2, l2, o2⟩ := mulG_repr (mulG z z) x (a ^ (2 * m)) a o1 hx hxr r1 rx
    rw [← Nat.pow_succ] at r2
    exact ⟨r2, l2, o2⟩
  · simp only [hb, if_false, Nat.add_zero]
    exact ⟨r1, l1, o1⟩

/-- **`Exp`**: for a fully reduced Montgomery representation `x` of `a` and every exponent `e ≥ 0`
(whatever the receiver held), the result is a fully reduced Montgomery representation of `a^e`. -/
theorem exp_repr (z x : L4) (a : Nat) (e : Int) (he : 0 ≤ e) (hx : x.ok) (hxr : x.val < R) (rx : Cios.Repr x a) :
    Cios.Repr (go_Exp z x e) (a ^ e.toNat) ∧ (go_Exp z x e).val < R ∧ (go_Exp z x e).ok := by
  unfold go_Exp
  simp only [cmp_eq_zero]
  by_cases h0 : e = 0
  · subst h0
    simp only [if_true, setOne_eq]
    simpa using one_repr
  · simp only [h0, if_false, set_eq]
    obtain ⟨n, rfl⟩ : ∃ n : Nat, e = (n : Int) := ⟨e.toNat, by omega⟩
    have hn : n ≠ 0 := by omega
    have hlo : 2 ^ n.log2 ≤ n := Nat.log2_self_le hn
    have hhi : n < 2 ^ (n.log2 + 1) := Nat.lt_log2_self
    have hbl : Big.bitLen (n : Int) - 2 = ((n.log2 + 1 : Nat) : Int) - 2 := by
      unfold Big.bitLen
      have : ¬ ((n : Int) = 0) := h0
      rw [if_neg this, Int.natAbs_natCast]
    rw [hbl, Loop.forDown_nat]
    have hcnt : (((n.log2 + 1 : Nat) : Int) - 2 + 1).toNat = n.log2 := by omega
    rw [hcnt, Int.toNat_natCast]
    have key := Loop.foldl_range_inv
      (fun k (st : L4) => Cios.Repr st (a ^ (n / 2 ^ (n.log2 - k))) ∧ st.val < R ∧ st.ok)
      (fun (st : L4) (k : Nat) =>
        (fun (i : Int) (z : L4) => if Big.bit (n : Int) i = 1 then mulG (mulG z z) x else mulG z z)
          (((n.log2 + 1 : Nat) : Int) - 2 - (k : Int)) st)
      x n.log2
      (by
        have : n / 2 ^ (n.log2 - 0) = 1 := by
          rw [Nat.sub_zero]
          exact Nat.div_eq_of_lt_le (by omega) (by rw [Nat.pow_succ] at hhi; omega)
        rw [this, Nat.pow_one]
        exact ⟨rx, hxr, hx⟩)
      (by
        intro k st hk ⟨rs, ls, os⟩
        have hi : (((n.log2 + 1 : Nat) : Int) - 2 - (k : Int)) = ((n.log2 - 1 - k : Nat) : Int) := by omega
        simp only [hi]
        have hbit : Big.bit (n : Int) ((n.log2 - 1 - k : Nat) : Int) = n / 2 ^ (n.log2 - 1 - k) % 2 := by
          unfold Big.bit
          have : ¬ (((n.log2 - 1 - k : Nat) : Int) < 0) := by omega
          simp [this]
        rw [hbit]
        have hpow : n.log2 - k = (n.log2 - 1 - k) + 1 := by omega
        have hm : n / 2 ^ (n.log2 - (k + 1)) =
            2 * (n / 2 ^ (n.log2 - k)) + (if n / 2 ^ (n.log2 - 1 - k) % 2 = 1 then 1 else 0) := by
          have e1 : n.log2 - (k + 1) = n.log2 - 1 - k := by omega
          rw [e1, hpow, Nat.pow_succ, ← Nat.div_div_eq_div_mul]
          split <;> omega
        rw [hm]
        exact exp_step st x a _ _ os ls hx hxr rs rx)
    simp only [Nat.sub_self, Nat.pow_zero, Nat.div_one] at key
    exact key

/-! ### `Legendre` -/

/-- two fully reduced Montgomery representations are equal iff they stand for the same residue -/
theorem repr_eq_iff (x y : L4) (a b : Nat) (hx : x.ok) (hy : y.ok) (hxr : x.val < R) (hyr : y.val < R)
    (rx : Cios.Repr x a) (ry : Cios.Repr y b) : x = y ↔ a % R = b % R := by
  unfold Cios.Repr at rx ry
  constructor
  · intro h
    subst h
    have : a * R256 ≡ b * R256 [MOD R] := rx.symm.trans ry
    exact Nat.ModEq.cancel_right_of_coprime gcd_radix this
  · intro h
    apply val_inj hx hy
    have hab : a * R256 ≡ b * R256 [MOD R] := Nat.ModEq.mul_right _ h
    have : x.val % R = y.val % R := (rx.trans hab).trans ry.symm
    rwa [Nat.mod_eq_of_lt hxr, Nat.mod_eq_of_lt hyr] at this

/-- the decision of `Legendre` on the power it computed -/
def legCore (l : L4) : Int :=
  if (go_IsZero l = true) then (0 : Int)
  else if ((((((Big.limb l (3 : Int)) = (1739710354780652911 : Nat))) ∧ (((Big.limb l (2 : Int)) = (11064306276430008312 : Nat)))) ∧ (((Big.limb l (1 : Int)) = (253265890806062196 : Nat)))) ∧ (((Big.limb l (0 : Int)) = (6347764673676886264 : Nat)))) then (1 : Int)
  else (-(1 : Int))

theorem legendre_unfold (z : L4) : go_Legendre z = legCore (go_Exp ⟨0, 0, 0, 0⟩ z legendreExponent) := rfl

theorem legCore_eq (l : L4) : legCore l = if l = ⟨0, 0, 0, 0⟩ then 0 else if l = oneL then 1 else -1 := by
  unfold legCore
  by_cases h0 : l = ⟨0, 0, 0, 0⟩
  · have : go_IsZero l = true := (isZero_iff l).2 h0
    rw [if_pos this, if_pos h0]
  · have : ¬ go_IsZero l = true := fun h => h0 ((isZero_iff l).1 h)
    rw [if_neg this, if_neg h0]
    obtain ⟨l0, l1, l2, l3⟩ := l
    split
    · next hc =>
      have h1 : (⟨l0, l1, l2, l3⟩ : L4) = oneL := by
        obtain ⟨⟨⟨h3, h2⟩, h1'⟩, h0'⟩ := hc
        change l3 = _ at h3; change l2 = _ at h2; change l1 = _ at h1'; change l0 = _ at h0'
        subst h3 h2 h1' h0'; rfl
      rw [if_pos h1]
    · next hc =>
      have h1 : ¬ (⟨l0, l1, l2, l3⟩ : L4) = oneL := by
        intro h
        unfold oneL at h
        rw [L4.mk.injEq] at h
        obtain ⟨rfl, rfl, rfl, rfl⟩ := h
        exact hc ⟨⟨⟨rfl, rfl⟩, rfl⟩, rfl⟩
      rw [if_neg h1]

/-- **`Legendre`** is Euler's criterion: on a fully reduced Montgomery representation of `a` it
returns 0, 1 or −1 according to `a^((r−1)/2) mod r` being 0, 1 or anything else. -/
theorem legendre_spec (z : L4) (a : Nat) (hz : z.ok) (hzr : z.val < R) (rz : Cios.Repr z a) :
    go_Legendre z = if a ^ ((R - 1) / 2) % R = 0 then 0 else if a ^ ((R - 1) / 2) % R = 1 then 1 else -1 := by
  rw [legendre_unfold, legCore_eq, legendreExponent_eq]
  obtain ⟨rl, ll, ol⟩ := exp_repr ⟨0, 0, 0, 0⟩ z a (((R - 1) / 2 : Nat) : Int) (by omega) hz hzr rz
  rw [Int.toNat_natCast] at rl
  have hzero := repr_eq_iff _ _ _ _ ol zero_repr.2.2 ll zero_repr.2.1 rl zero_repr.1
  have hone := repr_eq_iff _ _ _ _ ol one_repr.2.2 ll one_repr.2.1 rl one_repr.1
  have m0 : 0 % R = 0 := by decide
  have m1 : 1 % R = 1 := by decide
  rw [m0] at hzero; rw [m1] at hone
  simp only [hzero, hone]

/-- `IsUint64` ⇔ the raw 256-bit value of the limbs fits in one word (used by `partitionScalars` on the
scalar in regular form: zero-skip and the small-value count) -/
theorem isUint64_iff (z : L4) (hz : z.ok) : go_IsUint64 z = true ↔ z.val < W := by
  obtain ⟨z0, z1, z2, z3⟩ := z
  have e : go_IsUint64 ⟨z0, z1, z2, z3⟩ = decide (((z3 ||| z2) ||| z1) = 0) := rfl
  rw [e, decide_eq_true_eq]
  simp only [Nat.or_eq_zero_iff]
  unfold L4.ok L4.val W at *
  simp only at *
  constructor
  · rintro ⟨⟨h3, h2⟩, h1⟩; subst h1 h2 h3; omega
  · intro h; omega

/-- nothing emitted by the translator is left without a theorem -/
theorem coverage : Gen.FrMisc.translated = ["Set", "SetOne", "Equal", "IsZero", "IsUint64", "Cmp", "LexicographicallyLargest", "Exp", "Legendre"] := rfl

end GoIpa.Tie.FrMisc
