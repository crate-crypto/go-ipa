/-
  Tie T1 for the word-selector code of `bandersnatch/multiexp.go`: the selector computations of
  `partitionScalars` and `msmProcessChunkPointAffineDMA`, the digit read and the recoder's stores,
  translated with explicit 64-bit wrap-around (Gen/Formulas.lean), are the model's `mkSelector`,
  `selectBits` and `writeBits` — the objects of `selectBits_spec` / `writeBits_spec` (C09) — for
  every window width `1 ≤ c < 64` and every chunk inside the 256 bits.
-/
import GoIpa.Gen.Formulas
import GoIpa.Lemmas.PipBits
namespace GoIpa.Tie.Selector
open GoIpa GoIpa.PipBits

/-! For operands in range a wrapping `uint64` operation is the plain one: `simp` removes the
wrap-around with these lemmas, `omega` checking the ranges. -/

theorem wrap_sub {a b : Nat} (hb : b ≤ a) (ha : a < 2 ^ 64) :
    (a + 18446744073709551616 - b) % 18446744073709551616 = a - b := by omega

/-- the mask `1<<n − 1` -/
theorem wrap_mask {n : Nat} (h : n < 64) :
    ((1 <<< n) % 18446744073709551616 + 18446744073709551616 - 1) % 18446744073709551616 = (1 <<< n) - 1 := by
  have := Nat.pow_lt_pow_right (a := 2) (by omega) h
  have := Nat.two_pow_pos n
  rw [Nat.one_shiftLeft]; omega

theorem and_mask64 (x : Nat) : x &&& mask64 = x % 18446744073709551616 := by
  rw [mask64_eq, Nat.and_two_pow_sub_one_eq_mod]

/-- the selector as a tuple, in the order the translation returns it -/
def selTuple (s : Selector) : Nat × Nat × Nat × Bool × Nat × Nat :=
  (s.index, s.mask, s.shift, s.multiWord, s.maskHigh, s.shiftHigh)

/-- **The selector recomputed in `msmProcessChunkPointAffineDMA` is the model's `mkSelector`.** -/
theorem chunkSelector_eq (c k : Nat) (hc1 : 1 ≤ c) (hc : c < 64) (hk : k * c < 256) :
    Gen.chunkSelector c k = selTuple (mkSelector c k) := by
  unfold Gen.chunkSelector selTuple mkSelector
  by_cases hm : (decide (64 % c ≠ 0) && decide (k * c - k * c / 64 * 64 > 64 - c) && decide (k * c / 64 < 3)) = true
  · have hgt : k * c - k * c / 64 * 64 > 64 - c := by
      simp only [Bool.and_eq_true, decide_eq_true_eq] at hm; exact hm.1.2
    simp (disch := omega) only [Nat.mod_eq_of_lt, wrap_sub, wrap_mask, and_mask64, hm, ↓reduceIte]
  · simp (disch := omega) only [Nat.mod_eq_of_lt, wrap_sub, wrap_mask, and_mask64, hm, Bool.false_eq_true, ↓reduceIte]

/-- **The selector computed in `partitionScalars` is the same one** (it tests `!cDivides64`). -/
theorem partitionSelector_eq (c k : Nat) (hc1 : 1 ≤ c) (hc : c < 64) (hk : k * c < 256) :
    Gen.partitionSelector c k = selTuple (mkSelector c k) := by
  rw [← chunkSelector_eq c k hc1 hc hk]
  unfold Gen.partitionSelector Gen.chunkSelector
  simp only [decide_not]

/-- **The digit read of `msmProcessChunk` is the model's `selectBits`** (for words below `2^64`,
so that the sum of the two parts does not wrap) -/
theorem digitRead_eq (c k : Nat) (hc1 : 1 ≤ c) (hc : c < 64) (hk : k * c < 256)
    (l0 l1 l2 l3 : Nat) (h0 : l0 < 2 ^ 64) (h1 : l1 < 2 ^ 64) (h2 : l2 < 2 ^ 64) (h3 : l3 < 2 ^ 64) :
    Gen.digitRead (mkSelector c k).index (mkSelector c k).mask (mkSelector c k).shift (mkSelector c k).maskHigh
        (mkSelector c k).shiftHigh (mkSelector c k).multiWord [l0, l1, l2, l3]
      = selectBits c [l0, l1, l2, l3] k := by
  -- the digit is below `2^c`, so neither the shifted high part nor the sum wraps
  have hlt : selectBits c [l0, l1, l2, l3] k < 18446744073709551616 := by
    rw [selectBits_spec c k hc1 (by omega) hk l0 l1 l2 l3 h0 h1 h2 h3]
    exact Nat.lt_of_lt_of_le (Bits.field_lt _ _ c) (Nat.pow_le_pow_right (j := 64) (by omega) (Nat.le_of_lt hc))
  obtain ⟨idx, sh, hpos, _, hi, _⟩ := mkSelector_spec c k (by omega)
  unfold Gen.digitRead
  unfold selectBits at hlt ⊢
  simp only [hi] at hlt ⊢
  split
  · rename_i hm
    rw [if_pos hm] at hlt
    rw [Nat.mod_eq_of_lt (show idx + 1 < _ by omega), Nat.mod_eq_of_lt (Nat.lt_of_le_of_lt (Nat.le_add_left _ _) hlt),
      Nat.mod_eq_of_lt hlt]
  · rfl

/-- **The recoder's two stores are the model's `writeBits`** (for output words below `2^64`) -/
theorem recoderStore_eq (c k bits : Nat) (hk : k * c < 256) (o0 o1 o2 o3 : Nat)
    (h0 : o0 < 2 ^ 64) (h1 : o1 < 2 ^ 64) (h2 : o2 < 2 ^ 64) (h3 : o3 < 2 ^ 64) :
    Gen.recoderStore (mkSelector c k).index (mkSelector c k).shift (mkSelector c k).shiftHigh
        (mkSelector c k).multiWord bits [o0, o1, o2, o3]
      = writeBits c k bits [o0, o1, o2, o3] := by
  have hq : Words [o0, o1, o2, o3] := ⟨o0, o1, o2, o3, rfl, h0, h1, h2, h3⟩
  have hidx : (mkSelector c k).index + 1 < 18446744073709551616 := by
    have : (mkSelector c k).index = k * c / 64 := by unfold mkSelector; simp only; split <;> rfl
    omega
  unfold Gen.recoderStore writeBits
  simp only
  rw [mask64_eq, Bits.or_mask_word _ _ (by rw [hq.getD]; exact Bits.field_lt _ _ 64), Nat.mod_eq_of_lt hidx]

end GoIpa.Tie.Selector
