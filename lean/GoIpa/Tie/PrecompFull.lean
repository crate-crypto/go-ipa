/-
  Tie T1 for the table constructor and the MSM driver of `banderwagon/precomp.go`:
  `NewPrecompPoint` (with its errgroup closure translated in place, see
  `go/cmd/extract/precompfull.go`) and `MSMPrecomp.MSM`, translated from the current source on
  every run (`Gen/PrecompFull.lean`), are the model's `buildTable` and the fold of `precompMSM` —
  the objects of `C05.buildTable_spec`, `precompScalarMul_built`, `precompMSM_built`.
  `NewPrecompMSM`'s window choice (16 bits below `window16vs8IndexLimit`, 8 bits otherwise) is
  checked as a statement list.
-/
import GoIpa.Gen.PrecompFull
import GoIpa.Model.Precomp
import GoIpa.Lemmas.LoopLemmas
import Mathlib.Algebra.Module.Basic
import Mathlib.Algebra.Module.NatInt
namespace GoIpa.Tie.PrecompFull
open GoIpa GoIpa.Loop

variable {K G : Type} [Field K] [DecidableEq K] [AddCommGroup G] [Module K G]

/-- `buildWindow` grows at the end by the next multiple -/
theorem buildWindow_snoc (base : G) : ∀ (j : Nat) (c : G),
    buildWindow base (j + 1) c = buildWindow base j c ++ [c + j • base] := by
  intro j
  induction j with
  | zero => intro c; simp [buildWindow]
  | succ j ih =>
    intro c
    rw [buildWindow, ih (c + base)]
    simp only [buildWindow, List.cons_append]
    congr 2
    rw [succ_nsmul, add_assoc, add_comm base]

theorem buildWindow_length (base : G) : ∀ (j : Nat) (c : G), (buildWindow base j c).length = j := by
  intro j
  induction j with
  | zero => intro c; rfl
  | succ j ih => intro c; simp [buildWindow, ih]

/-- `buildTable` grows at the end by the window of the shifted base -/
theorem buildTable_snoc (w : Nat) (shift : G → G) : ∀ (k : Nat) (P : G),
    buildTable w shift (k + 1) P
      = buildTable w shift k P ++ [buildWindow (shift^[k] P) (1 <<< (w - 1)) (shift^[k] P)] := by
  intro k
  induction k with
  | zero => intro P; simp [buildTable]
  | succ k ih =>
    intro P
    rw [buildTable, ih (shift P)]
    simp only [buildTable, List.cons_append, Function.iterate_succ, Function.comp_apply]

theorem buildTable_length (w : Nat) (shift : G → G) : ∀ (k : Nat) (P : G), (buildTable w shift k P).length = k := by
  intro k
  induction k with
  | zero => intro P; rfl
  | succ k ih => intro P; simp [buildTable, ih]

/-- writing slot `j` of a list whose first `j` slots are filled -/
theorem set_prefix {α : Type} (A : List α) (z v : α) (m : Nat) (hA : A.length < m) :
    (A ++ List.replicate (m - A.length) z).set A.length v = (A ++ [v]) ++ List.replicate (m - (A.length + 1)) z := by
  have hm : m - A.length = (m - (A.length + 1)) + 1 := by omega
  rw [hm, List.replicate_succ, List.set_append_right _ _ (Nat.le_refl _)]
  simp

/-- a counting loop that maps `Q i` to `Q (i+1)` ends in `Q n` -/
theorem forUp_inv {σ : Type} (Q : Nat → σ) (n : Nat) (body : Int → σ → σ)
    (hstep : ∀ i : Nat, i < n → body (i : Int) (Q i) = Q (i + 1)) :
    Loop.forUp 0 (n : Int) (Q 0) body = Q n := by
  rw [forUp_zero]
  exact foldl_range_inv (fun k st => st = Q k) _ (Q 0) n rfl (fun k st hk hst => by rw [hst]; exact hstep k hk)

/-- the loop that fills one window: `windows[i][j] = curr; curr += base` -/
theorem window_loop (base : G) (W : List (List G)) (i : Nat) (hi : i < W.length) (m : Nat)
    (body : Int → (List (List G) × G) → (List (List G) × G))
    (hbody : ∀ (j : Nat) (X : List (List G)) (c : G),
      body (j : Int) (X, c) = (X.set i ((X.getD i []).set j c), c + base)) :
    Loop.forUp 0 (m : Int) (W.set i (List.replicate m (0 : G)), base) body
      = (W.set i (buildWindow base m base), base + m • base) := by
  have h := forUp_inv (fun j => (W.set i (buildWindow base j base ++ List.replicate (m - j) (0 : G)), base + j • base)) m body
    (by
      intro j hj
      rw [hbody]
      rw [getD_set_self _ _ _ _ hi, List.set_set]
      have hl := buildWindow_length base j base
      have e1 : (buildWindow base j base ++ List.replicate (m - j) (0 : G)).set j (base + j • base)
          = buildWindow base (j + 1) base ++ List.replicate (m - (j + 1)) (0 : G) := by
        have := set_prefix (buildWindow base j base) (0 : G) (base + j • base) m (by rw [hl]; exact hj)
        rw [hl] at this
        rw [this, buildWindow_snoc]
      rw [e1, succ_nsmul, ← add_assoc])
  simp only [buildWindow, List.nil_append, Nat.sub_zero, zero_smul, add_zero, Nat.sub_self, List.replicate_zero,
    List.append_nil] at h
  exact h

/-- **`NewPrecompPoint`, translated from the source, builds the model's `buildTable`**: for a
power-of-two window size `w ≥ 1`, `256 / w` windows, window `k` holding the multiples
`1 … 2^(w−1)` of `2^(w·k) • P` (`C05.buildTable_spec`), `batchToExtendedPointNormalized` being the
identity on group elements -/
theorem newPrecompPoint_eq (w : Nat) (hw : 1 ≤ w) (hpow : w &&& (w - 1) = 0) (P : G) :
    Gen.PrecompFull.newPrecompPoint (K := K) id P (w : Int)
      = some ((w : Int), buildTable w (fun b => (2 ^ w : Nat) • b) (256 / w) P) := by
  unfold Gen.PrecompFull.newPrecompPoint
  have hband : Loop.band (w : Int) ((w : Int) - 1) = 0 := by
    unfold Loop.band
    have : ((w : Int) - 1).toNat = w - 1 := by omega
    rw [this, Int.toNat_natCast, hpow]; rfl
  have h1 : ¬ (Loop.band (w : Int) ((w : Int) - 1) ≠ 0) := by rw [hband]; simp
  rw [if_neg h1]
  have hone : (1 : Int).toNat = 1 := rfl
  have hshl : (Loop.shl 1 (w : Int)).toNat = 2 ^ w := by
    unfold Loop.shl
    rw [Int.toNat_natCast, Int.toNat_natCast, hone, Nat.one_shiftLeft]
  have hm : (Loop.shl 1 ((w : Int) - 1)).toNat = 1 <<< (w - 1) := by
    unfold Loop.shl
    have : ((w : Int) - 1).toNat = w - 1 := by omega
    rw [this, Int.toNat_natCast, hone]
  have hn : ((256 : Int) / (w : Int)).toNat = 256 / w := by
    have : (256 : Int) / (w : Int) = ((256 / w : Nat) : Int) := by norm_cast
    rw [this, Int.toNat_natCast]
  simp only [hshl, hm, hn, List.length_replicate]
  generalize hndef : 256 / w = n
  generalize hmdef : 1 <<< (w - 1) = m
  let shift : G → G := fun b => (2 ^ w : Nat) • b
  let Q : Nat → (List (List G) × List (List G) × G) := fun k =>
    (buildTable w shift k P ++ List.replicate (n - k) ([] : List G),
     buildTable w shift k P ++ List.replicate (n - k) ([] : List G), shift^[k] P)
  have hQ0 : (List.replicate n ([] : List G), List.replicate n ([] : List G), P) = Q 0 := by
    simp [Q, buildTable]
  have hfin : ∀ body : Int → (List (List G) × List (List G) × G) → (List (List G) × List (List G) × G),
      (∀ i : Nat, i < n → body (i : Int) (Q i) = Q (i + 1)) → Loop.forUp 0 (n : Int) (Q 0) body = Q n :=
    fun body h => forUp_inv Q n body h
  rw [hQ0, hfin]
  · simp [Q]
    rfl
  · intro k hk
    simp only [Q, get_nat, set_nat]
    have hTl := buildTable_length w shift k P
    have hlen : k < (buildTable w shift k P ++ List.replicate (n - k) ([] : List G)).length := by
      rw [List.length_append, hTl, List.length_replicate]; omega
    rw [getD_set_self _ _ _ _ hlen, List.length_replicate]
    rw [window_loop (shift^[k] P) _ k hlen m _ (by intro j X c; simp only [get_nat, set_nat])]
    simp only [getD_set_self _ _ _ _ hlen, id]
    have e := set_prefix (buildTable w shift k P) ([] : List G) (buildWindow (shift^[k] P) m (shift^[k] P)) n (by rw [hTl]; exact hk)
    rw [hTl] at e
    rw [e, ← hmdef, ← buildTable_snoc]
    refine Prod.ext rfl (Prod.ext rfl ?_)
    simp only [Function.iterate_succ_apply']
    show ((2 ^ w : Nat) : K) • shift^[k] P = shift (shift^[k] P)
    rw [Nat.cast_smul_eq_nsmul]

/-- **`MSMPrecomp.MSM`, translated from the source**: starting from the identity, the table of
basis point `i` is applied to scalar `i` in order, zero scalars skipped — the fold of the model's
`precompMSM` (whose step is `precompScalarMul`, tied to `PrecompPoint.ScalarMul` in `Tie/Precomp.lean`) -/
theorem msm_eq (ppScalarMul : Int → K → G → G) (scalars : List K) :
    Gen.PrecompFull.msm ppScalarMul scalars
      = (List.zipIdx scalars).foldl (fun (acc : G) (e : K × Nat) =>
          if e.1 = 0 then acc else ppScalarMul (e.2 : Int) e.1 acc) 0 := by
  unfold Gen.PrecompFull.msm
  simp only [forUp_zero, get_nat]
  have key : ∀ (l : List K) (off : Nat) (acc : G),
      (List.range l.length).foldl (fun (st : G) (k : Nat) =>
          if ¬ (l.getD k 0 = 0) then ppScalarMul ((k + off : Nat) : Int) (l.getD k 0) st else st) acc
        = (List.zipIdx l off).foldl (fun (acc : G) (e : K × Nat) =>
          if e.1 = 0 then acc else ppScalarMul (e.2 : Int) e.1 acc) acc := by
    intro l
    induction l with
    | nil => intro off acc; rfl
    | cons x xs ih =>
      intro off acc
      rw [List.length_cons, List.range_succ_eq_map, List.foldl_cons, List.foldl_map, List.zipIdx_cons, List.foldl_cons]
      simp only [List.getD_cons_zero, List.getD_cons_succ, Nat.zero_add]
      have h := ih (off + 1) (if ¬ (x = 0) then ppScalarMul (off : Int) x acc else acc)
      have e : ∀ k : Nat, k + (off + 1) = k + 1 + off := by intro k; omega
      simp only [e] at h
      rw [h]
      by_cases hx : x = 0 <;> simp [hx]
  have := key scalars 0 0
  simpa using this

/-- `NewPrecompMSM`: exactly 256 points, a 16-bit table for the first `window16vs8IndexLimit`
points and an 8-bit table for the others, each built by `NewPrecompPoint`, errors passed on -/
theorem newPrecompMSM_body : Gen.PrecompFull.newPrecompMSMBody =
    ["if len(points) != supportedMSMLength { return MSMPrecomp{}, fmt.Errorf(\"the number of points must be %d\", supportedMSMLength) }",
     "var err error", "var precompPoints [supportedMSMLength]PrecompPoint",
     "for i := 0; i < supportedMSMLength; i++ { windowSize := 8 if i < window16vs8IndexLimit { windowSize = 16 } precompPoints[i], err = NewPrecompPoint(points[i], windowSize) if err != nil { return MSMPrecomp{}, fmt.Errorf(\"creating precomputed table for point: %s\", err) } }",
     "return MSMPrecomp{ precompPoints: precompPoints, }, nil"] := rfl

end GoIpa.Tie.PrecompFull
