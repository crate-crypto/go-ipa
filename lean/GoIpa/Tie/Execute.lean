/-
  Tie T1 for C20/C12: the Lean function REGENERATED from `common/parallel/execute.go` on every
  run computes exactly the ranges of the hand-written model, for every `n` and every `m ≥ 1`;
  and the WaitGroup statements sit where the join model assumes them.
-/
import Mathlib.Tactic.Ring
import Mathlib.Tactic.Linarith
import GoIpa.Gen.Execute
import GoIpa.Model.Ranges
namespace GoIpa.Tie.Execute
open GoIpa

def castPair (p : Nat × Nat) : Int × Int := ((p.1 : Int), (p.2 : Int))

theorem loop_eq (n nbTasks : Int) (per : Nat) : ∀ (fuel i extra off : Nat),
    Gen.executeLoop n nbTasks (per : Int) fuel (i : Int) (extra : Int) (off : Int)
      = (rangesLoop per fuel i extra off).map castPair := by
  intro fuel
  induction fuel with
  | zero => intro i extra off; simp [Gen.executeLoop, rangesLoop]
  | succ fuel ih =>
    intro i extra off
    unfold Gen.executeLoop rangesLoop
    dsimp only
    by_cases h : extra > 0
    · have h' : (extra : Int) > 0 := by omega
      simp only [h, h', ↓reduceIte, List.map_cons]
      have e1 : (i : Int) + 1 = ((i + 1 : Nat) : Int) := by omega
      have e2 : (extra : Int) - 1 = ((extra - 1 : Nat) : Int) := by omega
      have e3 : (off : Int) + 1 = ((off + 1 : Nat) : Int) := by omega
      rw [e1, e2, e3, ih]
      simp only [castPair]
      congr 1
      try (refine Prod.ext ?_ ?_ <;> simp only <;> push_cast <;> ring)
    · have h' : ¬ (extra : Int) > 0 := by omega
      simp only [h, h', ↓reduceIte, List.map_cons]
      have e1 : (i : Int) + 1 = ((i + 1 : Nat) : Int) := by omega
      rw [e1, ih]
      simp only [castPair]
      congr 1
      try (refine Prod.ext ?_ ?_ <;> simp only <;> push_cast <;> ring)

/-- **The translated `Execute` hands out exactly the model's ranges.** -/
theorem executeRanges_eq (n m : Nat) (hm : 1 ≤ m) (numCPU : Int) :
    Gen.executeRanges (n : Int) (m : Int) numCPU = (ranges n m).map castPair := by
  unfold Gen.executeRanges ranges
  dsimp only
  have hdiv : Int.tdiv (n : Int) (m : Int) = ((n / m : Nat) : Int) := by
    rw [Int.tdiv_eq_ediv_of_nonneg (by omega)]; norm_cast
  rw [hdiv]
  by_cases h : n / m < 1
  · have h' : ((n / m : Nat) : Int) < 1 := by omega
    simp only [h, h', ↓reduceIte]
    have e : (n : Int) - (n : Int) * 1 = ((n - n * 1 : Nat) : Int) := by omega
    rw [e, Int.toNat_natCast]
    exact loop_eq (n : Int) (n : Int) 1 n 0 (n - n * 1) 0
  · have h' : ¬ ((n / m : Nat) : Int) < 1 := by omega
    simp only [h, h', ↓reduceIte]
    have hle : m * (n / m) ≤ n := Nat.mul_div_le n m
    have e : (n : Int) - (m : Int) * ((n / m : Nat) : Int) = ((n - m * (n / m) : Nat) : Int) := by
      push_cast [Nat.cast_sub hle]; ring
    rw [e, Int.toNat_natCast]
    exact loop_eq (n : Int) (m : Int) (n / m) m 0 (n - m * (n / m)) 0

/-- the WaitGroup statements: `Add(1)` before each `go`, `Done()` right after `work`,
`Wait()` after the loop, and the loop runs `nbTasks` times -/
theorem waitgroup_shape :
    Gen.executeFacts = ["decl:wg:sync.WaitGroup", "wait-after-loop", "add-before-go", "work-then-done"] ∧
    Gen.executeLoopBound = "nbTasks" := ⟨rfl, rfl⟩

end GoIpa.Tie.Execute
