/-
  Tie T1 for `CreateMultiProof`: the function translated from the current source of
  `multiproof.go` (`Gen/Loops.lean`) is the model's `mpProve`.

  Abstracted (parameters of the translated function, with the assumption made about each):
    * `groupFn` — `groupPolynomialsByEvaluationPoint` (goroutines and a channel; its protocol model
      is `Grouping.group_spec`, every worker count and arrival order): assumed to return the model's
      table `groupPolys 256 fs pows zs w order`, with `nil` for an unused point;
    * `commitFn` — `IPAConfig.Commit` (= `Σ vᵢ•Gᵢ`, C05); `normalize` — `banderwagon.BatchNormalize`
      (class preserving, C19; at the level of group elements the identity);
    * `multiScalar`, `bvec`, `enc` as in `Tie/Protocol.lean`.
-/
import GoIpa.Tie.Protocol
import GoIpa.Lemmas.MpAlgebra
set_option linter.unusedSectionVars false
namespace GoIpa.Tie.ProtocolMp
open GoIpa GoIpa.Loop GoIpa.Tie.Loops GoIpa.Tie.Protocol

variable {K G : Type} [Field K] [DecidableEq K] [AddCommGroup G] [Module K G]
variable (enc : Enc K G)

/-- what `groupPolynomialsByEvaluationPoint` returns for a table of the model: `nil` where unused -/
def tableOf (groups : Groups K) : List (List K) := groups.map (fun o => o.getD [])

/-- a well-formed table: 256 entries, every used entry a vector of length 256 -/
structure TableOk (groups : Groups K) : Prop where
  len : groups.length = 256
  vec : ∀ k v, groups.getD k none = some v → v.length = 256

theorem tableOf_getD (groups : Groups K) (k : Nat) : (tableOf groups).getD k [] = (groups.getD k none).getD [] := by
  unfold tableOf
  rw [List.getD_eq_getElem?_getD, List.getD_eq_getElem?_getD, List.getElem?_map]
  cases groups[k]? <;> simp

theorem tableOf_unused (groups : Groups K) (h : TableOk groups) (k : Nat) :
    ((((tableOf groups).getD k []).length : Nat) : Int) = 0 ↔ groups.getD k none = none := by
  rw [tableOf_getD]
  cases hg : groups.getD k none with
  | none => simp
  | some v => have := h.vec k v hg; simp [this]

/-! ### the loops of `CreateMultiProof` -/

/-- `v[j] += q[j]` over the whole vector is `addVec` -/
theorem addVec_loop (v q : List K) (hv : v.length = 256) (hq : q.length = 256) :
    (List.range 256).foldl (fun (st : List K) (j : Nat) => st.set j (st.getD j 0 + q.getD j 0)) v = addVec v q := by
  rw [foldl_set_map 0 (fun j x => x + q.getD j 0) _ v 256 hv (fun _ _ _ _ => rfl)]
  unfold addVec
  rw [zipWith_eq_range_map _ v q 0 0 (by rw [hv, hq]), hv]

theorem addVec_length (v q : List K) (hv : v.length = 256) (hq : q.length = 256) : (addVec v q).length = 256 := by
  unfold addVec; rw [List.length_zipWith, hv, hq]; rfl

/-- the `g(X)` loop: one `DivideOnDomain` per used evaluation point, accumulated coordinate-wise -/
theorem g_loop (w : Weights K) (groups : Groups K) (h : TableOk groups) :
    (List.range 256).foldl (fun (st : List K) (k : Nat) =>
        if ((((tableOf groups).getD k []).length : Nat) : Int) = 0 then st
        else (List.range 256).foldl (fun (st : List K) (j : Nat) =>
          st.set j (st.getD j 0 +
            (Gen.Loops.divideOnDomain w.bary w.invDom (k : Int) ((tableOf groups).getD k [])).getD j 0)) st)
        (List.replicate 256 (0 : K))
      = (List.zipIdx groups).foldl (fun (g : List K) (e : Option (List K) × Nat) =>
          (e.1.map fun f => addVec g (w.divideOnDomain 256 e.2 f)).getD g) (List.replicate 256 (0 : K)) := by
  rw [zipIdx_eq_range_map groups none, List.foldl_map, h.len]
  refine (foldl_congr_inv (fun (st : List K) => st.length = 256) _ _ _ 256 List.length_replicate ?_).1
  intro k st hk hst
  have hdl : ∀ v : List K, (w.divideOnDomain 256 k v).length = 256 := by
    intro v; simp [Weights.divideOnDomain]
  cases hg : groups.getD k none with
  | none =>
    have : ((((tableOf groups).getD k []).length : Nat) : Int) = 0 := (tableOf_unused groups h k).mpr hg
    rw [if_pos this]
    exact ⟨rfl, hst⟩
  | some v =>
    have hne : ¬ (((((tableOf groups).getD k []).length : Nat) : Int) = 0) := by
      intro h0; rw [(tableOf_unused groups h k).mp h0] at hg; cases hg
    rw [if_neg hne, tableOf_getD, hg, Option.getD_some, divideOnDomain_eq w k hk v, addVec_loop st _ hst (hdl v)]
    exact ⟨rfl, addVec_length _ _ hst (hdl v)⟩

/-- the denominators `t − z` of the used points, in order -/
theorem den_loop (groups : Groups K) (h : TableOk groups) (t : K) :
    (List.range 256).foldl (fun (st : List K) (k : Nat) =>
        if ((((tableOf groups).getD k []).length : Nat) : Int) = 0 then st else st ++ [t - ((k : Nat) : K)]) []
      = (List.zipIdx groups).filterMap (fun (e : Option (List K) × Nat) => e.1.map fun _ => t - ((e.2 : Nat) : K)) := by
  rw [foldl_append_filter 256 (fun k => ((((tableOf groups).getD k []).length : Nat) : Int) = 0) (fun k => t - ((k : Nat) : K)),
    List.nil_append, zipIdx_eq_range_map groups none, List.filterMap_map, h.len]
  apply List.filterMap_congr
  intro k _
  show (if ((((tableOf groups).getD k []).length : Nat) : Int) = 0 then none else some (t - ((k : Nat) : K)))
    = (groups.getD k none).map fun _ => t - ((k : Nat) : K)
  cases hg : groups.getD k none with
  | none =>
    have : ((((tableOf groups).getD k []).length : Nat) : Int) = 0 := (tableOf_unused groups h k).mpr hg
    rw [if_pos this]; rfl
  | some v =>
    have hne : ¬ (((((tableOf groups).getD k []).length : Nat) : Int) = 0) := by
      intro h0; rw [(tableOf_unused groups h k).mp h0] at hg; cases hg
    rw [if_neg hne]; rfl

theorem zip_snoc {α β : Type} (l : List α) (x : α) (m : List β) (d : β) (h : l.length < m.length) :
    List.zip (l ++ [x]) m = List.zip l m ++ [(x, m.getD l.length d)] := by
  induction l generalizing m with
  | nil =>
    cases m with
    | nil => simp at h
    | cons y m => simp
  | cons a l ih =>
    cases m with
    | nil => simp at h
    | cons y m =>
      simp only [List.cons_append, List.zip_cons_cons, List.length_cons, List.getD_cons_succ]
      rw [ih m (by simpa using h)]

/-- `v[j] += f[j]·c` over the whole vector -/
theorem scaledAdd_loop (v f : List K) (c : K) (hv : v.length = 256) (hf : f.length = 256) :
    (List.range 256).foldl (fun (st : List K) (j : Nat) => st.set j (st.getD j 0 + f.getD j 0 * c)) v
      = addVec v (f.map (· * c)) := by
  rw [← addVec_loop v _ hv (by rw [List.length_map, hf])]
  apply List.foldl_ext
  intro st j hj
  rw [← hf] at hj
  simp [List.getD_eq_getElem?_getD, List.mem_range.mp hj]

/-- the used vectors among the first `k` table entries -/
def usedUpTo (groups : Groups K) (k : Nat) : List (List K) := (groups.take k).filterMap id

theorem usedUpTo_succ (groups : Groups K) (k : Nat) (hk : k < groups.length) :
    usedUpTo groups (k + 1) = usedUpTo groups k ++ (match groups.getD k none with | none => [] | some v => [v]) := by
  unfold usedUpTo
  rw [List.take_succ_eq_append_getElem hk, List.filterMap_append]
  congr 1
  have : groups.getD k none = groups[k] := by simp [List.getD_eq_getElem?_getD, hk]
  rw [this]
  cases groups[k] <;> rfl

theorem usedUpTo_lt (groups : Groups K) (k : Nat) (hk : k < groups.length) (v : List K) (hv : groups.getD k none = some v) :
    (usedUpTo groups k).length < (groups.filterMap id).length := by
  have h1 : groups.filterMap id = usedUpTo groups (k + 1) ++ (groups.drop (k + 1)).filterMap id := by
    unfold usedUpTo
    rw [← List.filterMap_append, List.take_append_drop]
  rw [h1, usedUpTo_succ groups k hk, hv]
  simp

/-- the `h(X)` loop with its running index into the compacted inverse denominators -/
theorem h_loop (groups : Groups K) (h : TableOk groups) (denInv : List K)
    (hdl : denInv.length = (groups.filterMap id).length) :
    ((List.range 256).foldl (fun (st : List K × Int) (k : Nat) =>
        if ((((tableOf groups).getD k []).length : Nat) : Int) = 0 then st
        else ((List.range 256).foldl (fun (hx : List K) (j : Nat) =>
            hx.set j (hx.getD j 0 + ((tableOf groups).getD k []).getD j 0 * Loop.get denInv st.2 0)) st.1, st.2 + 1))
        (List.replicate 256 (0 : K), (0 : Int))).1
      = (List.zip (groups.filterMap id) denInv).foldl (fun (hh : List K) (e : List K × K) =>
          addVec hh (e.1.map (· * e.2))) (List.replicate 256 (0 : K)) := by
  have inv := foldl_range_inv
    (fun k (st : List K × Int) => st.2 = ((usedUpTo groups k).length : Int) ∧ st.1.length = 256 ∧
      st.1 = (List.zip (usedUpTo groups k) denInv).foldl (fun (hh : List K) (e : List K × K) =>
          addVec hh (e.1.map (· * e.2))) (List.replicate 256 (0 : K)))
    (fun (st : List K × Int) (k : Nat) =>
        if ((((tableOf groups).getD k []).length : Nat) : Int) = 0 then st
        else ((List.range 256).foldl (fun (hx : List K) (j : Nat) =>
            hx.set j (hx.getD j 0 + ((tableOf groups).getD k []).getD j 0 * Loop.get denInv st.2 0)) st.1, st.2 + 1))
    (List.replicate 256 (0 : K), (0 : Int)) 256
    ⟨by unfold usedUpTo; rw [List.take_zero]; rfl, List.length_replicate, by unfold usedUpTo; rw [List.take_zero]; rfl⟩
    (by
      rintro k ⟨hx, idx⟩ hk ⟨h1, h2, h3⟩
      simp only at h1 h2 h3
      have hkl : k < groups.length := by rw [h.len]; exact hk
      cases hg : groups.getD k none with
      | none =>
        have : ((((tableOf groups).getD k []).length : Nat) : Int) = 0 := (tableOf_unused groups h k).mpr hg
        rw [if_pos this, usedUpTo_succ groups k hkl, hg]
        simp only [List.append_nil]
        exact ⟨h1, h2, h3⟩
      | some v =>
        have hne : ¬ (((((tableOf groups).getD k []).length : Nat) : Int) = 0) := by
          intro h0; rw [(tableOf_unused groups h k).mp h0] at hg; cases hg
        rw [if_neg hne, usedUpTo_succ groups k hkl, hg]
        simp only
        have hvl : v.length = 256 := h.vec k v hg
        have hlt : (usedUpTo groups k).length < denInv.length := by rw [hdl]; exact usedUpTo_lt groups k hkl v hg
        rw [tableOf_getD, hg, Option.getD_some, h1, get_nat, scaledAdd_loop hx v _ h2 hvl]
        refine ⟨by simp, ?_, ?_⟩
        · exact addVec_length _ _ h2 (by rw [List.length_map, hvl])
        · rw [zip_snoc _ v denInv 0 hlt, List.foldl_append, ← h3]
          rfl)
  obtain ⟨_, _, i3⟩ := inv
  rw [i3]
  have : usedUpTo groups 256 = groups.filterMap id := by
    unfold usedUpTo
    rw [List.take_of_length_le (by rw [h.len])]
  rw [this]

theorem foldl_inv_mem {σ α : Type} (P : σ → Prop) (f : σ → α → σ) (l : List α) (init : σ) (h0 : P init)
    (hstep : ∀ st e, e ∈ l → P st → P (f st e)) : P (l.foldl f init) := by
  induction l generalizing init with
  | nil => exact h0
  | cons x l ih =>
    rw [List.foldl_cons]
    exact ih _ (hstep init x (by simp) h0) (fun st e he hp => hstep st e (by simp [he]) hp)

theorem dens_length (groups : Groups K) (g : Nat → K) (off : Nat) :
    ((List.zipIdx groups off).filterMap (fun (e : Option (List K) × Nat) => e.1.map fun _ => g e.2)).length
      = (groups.filterMap id).length := by
  induction groups generalizing off with
  | nil => rfl
  | cons a l ih =>
    cases a with
    | none => simpa [List.zipIdx_cons] using ih (off + 1)
    | some v => simpa [List.zipIdx_cons] using ih (off + 1)

theorem forUpOpt_some_range {σ : Type} (lo hi : Int) (st : σ) (body : Int → σ → Option σ) (f : Int → σ → σ)
    (h : ∀ i s, lo ≤ i → i < hi → body i s = some (f i s)) : Loop.forUpOpt lo hi st body = some (Loop.forUp lo hi st f) := by
  unfold Loop.forUpOpt Loop.forUp
  have key : ∀ n : Nat, (n : Int) ≤ hi - lo ∨ n = 0 →
      (List.range n).foldl (fun (o : Option σ) (k : Nat) => match o with | none => none | some s => body (lo + (k : Int)) s) (some st)
        = some ((List.range n).foldl (fun s (k : Nat) => f (lo + (k : Int)) s) st) := by
    intro n
    induction n with
    | zero => intro _; rfl
    | succ n ih =>
      intro hn
      have hn' : ((n + 1 : Nat) : Int) ≤ hi - lo := by
        rcases hn with h1 | h1
        · exact h1
        · omega
      rw [List.range_succ, List.foldl_append, List.foldl_append, ih (Or.inl (by omega))]
      simp only [List.foldl_cons, List.foldl_nil]
      rw [h _ _ (by omega) (by omega)]
  have hn : (((hi - lo).toNat : Nat) : Int) ≤ hi - lo ∨ (hi - lo).toNat = 0 := by omega
  have := key (hi - lo).toNat hn
  convert this using 2
  funext o k
  cases o <;> rfl

theorem forUpOpt_unit (lo hi : Int) (body : Int → Unit → Option Unit) (h : ∀ i, lo ≤ i → i < hi → body i () = some ()) :
    Loop.forUpOpt lo hi () body = some () := by
  rw [forUpOpt_some_range lo hi () body (fun _ _ => ()) (fun i s h1 h2 => by cases s; exact h i h1 h2)]

/-- the result of the translated prover that corresponds to a result of the model -/
def ofModelMP (r : Option (MultiProof K G) × Tr) : Option (((List G × List G × K) × G) × Tr) :=
  match r.1 with
  | some p => some (((p.ipa.L, p.ipa.R, p.ipa.a), p.D), r.2)
  | none => none

/-- **`CreateMultiProof`, translated from the source, is the model's `mpProve`** on every
well-shaped statement (256-point domain, 8 rounds), for the grouping table the model computes with
any worker count and arrival order. -/
theorem createMultiProof_eq (cfg : IpaCfg K G) (hN : cfg.N = 256) (hr : cfg.rounds = 8) (hsrs : cfg.srs.length = 256)
    (ms : List G → List K → Option G) (hms : MsOk ms) (hbv : ∀ z, (bVector cfg z).length = 256)
    (normalize : List G → Option (List G)) (commitFn : List K → G)
    (groupFn : List (List K) → List K → List Int → List (List K))
    (tr : Tr) (Cs : List G) (fs : List (List K)) (zs : List Nat) (w : Nat) (order : List Nat)
    (hnorm : normalize Cs = some Cs) (hcommit : ∀ v, commitFn v = msm cfg.srs v)
    (hfs : ∀ k, k < fs.length → (fs.getD k []).length = 256)
    (hl1 : Cs.length = fs.length) (hl2 : Cs.length = zs.length) (hl0 : Cs.length ≠ 0)
    (hgroup : ∀ pows, groupFn fs pows (zs.map (fun (z : Nat) => (z : Int))) = tableOf (groupPolys 256 fs pows zs w order))
    (hok : ∀ pows, TableOk (groupPolys 256 fs pows zs w order)) :
    Gen.Loops.createMultiProof enc (bVector cfg) ms normalize commitFn groupFn cfg.weights.bary cfg.weights.invDom
        tr cfg.Q cfg.srs (cfg.rounds : Int) Cs fs (zs.map (fun (z : Nat) => (z : Int)))
      = ofModelMP (mpProve enc cfg tr Cs fs zs w order) := by
  unfold Gen.Loops.createMultiProof mpProve
  -- (a variable in the place of `createIPAProof` until its arguments are known: with the function itself as
  -- the scrutinee of the last `match`, every `simp only` below leaves the kernel a conversion to check in
  -- which it evaluates the loops that build the arguments)
  obtain ⟨ipa, hipa⟩ : ∃ ipa, Gen.Loops.createIPAProof enc (bVector cfg) ms = ipa := ⟨_, rfl⟩
  rw [hipa]
  simp only [List.length_map]
  -- the length validation loop
  rw [forUpOpt_unit _ _ _ (by
    intro i h0 h1
    have : Loop.get fs i [] = fs.getD i.toNat [] := by unfold Loop.get; rw [if_neg (by omega)]
    rw [this, hfs _ (by omega)]; rfl)]
  simp only
  have t1 : ¬ (((Cs.length : Nat) : Int) ≠ ((fs.length : Nat) : Int)) := by omega
  have t2 : ¬ (((Cs.length : Nat) : Int) ≠ ((zs.length : Nat) : Int)) := by omega
  have t3 : ¬ (((Cs.length : Nat) : Int) = 0) := by omega
  rw [if_neg t1, if_neg t2, if_neg t3, hnorm]
  simp only
  set n := Cs.length with hn
  have hfl : fs.length = n := by omega
  have hzs : zs.length = n := by omega
  have h256 : ((256 : Int)) = ((256 : Nat) : Int) := rfl
  rw [show Gen.Loops.mp_labelDomainSep = Label.multiproof from rfl, show Gen.Loops.mp_labelC = Label.C from rfl,
    show Gen.Loops.mp_labelZ = Label.z from rfl, show Gen.Loops.mp_labelY = Label.y from rfl,
    show Gen.Loops.mp_labelR = Label.r from rfl, show Gen.Loops.mp_labelD = Label.D from rfl,
    show Gen.Loops.mp_labelT = Label.t from rfl, show Gen.Loops.mp_labelE = Label.E from rfl]
  -- the statement as absorbed
  rw [foldl_zip3 _ Cs fs zs 0 [] 0 n rfl hfl hzs]
  simp only [h256, forUp_zero, Int.toNat_natCast, hN, get_nat, set_nat, getD_map_cast, domainToFr_eq]
  generalize (List.range n).foldl _ (tr.domainSep Label.multiproof) = tr1
  generalize Tr.challenge enc tr1 Label.r = rc
  obtain ⟨r, tr2⟩ := rc
  simp only
  rw [powersOf_eq r n (by omega), hgroup]
  set pows := GoIpa.powersOf r n with hpows
  set groups := groupPolys 256 fs pows zs w order with hgroups
  have hk := hok pows
  rw [← hgroups] at hk
  have htl : (tableOf groups).length = 256 := by unfold tableOf; rw [List.length_map, hk.len]
  simp only [htl, Prod.mk.eta]
  rw [g_loop cfg.weights groups hk, hcommit]
  set g := (List.zipIdx groups).foldl (fun (g : List K) (e : Option (List K) × Nat) =>
          (e.1.map fun f => addVec g (cfg.weights.divideOnDomain 256 e.2 f)).getD g) (List.replicate 256 (0 : K)) with hg
  generalize Tr.challenge enc (tr2.appendPoint enc (msm cfg.srs g) Label.D) Label.t = tc
  obtain ⟨t, tr3⟩ := tc
  simp only
  rw [den_loop groups hk t, batchInvert_eq]
  set denInv := GoIpa.batchInvert ((List.zipIdx groups).filterMap
    (fun (e : Option (List K) × Nat) => e.1.map fun _ => t - ((e.2 : Nat) : K))) with hdi
  have hdl : denInv.length = (groups.filterMap id).length := by
    rw [hdi, batchInvert_length]
    exact dens_length groups (fun k => t - ((k : Nat) : K)) 0
  rw [h_loop groups hk denInv hdl, hcommit]
  set hx := (List.zip (groups.filterMap id) denInv).foldl (fun (hh : List K) (e : List K × K) =>
          addVec hh (e.1.map (· * e.2))) (List.replicate 256 (0 : K)) with hhx
  -- lengths of the two accumulated vectors
  have hgl : g.length = 256 := by
    rw [hg]
    apply foldl_inv_mem (fun (st : List K) => st.length = 256) _ _ _ List.length_replicate
    intro st e he hst
    cases h1 : e.1 with
    | none => simpa using hst
    | some v =>
      simp only [Option.map_some, Option.getD_some]
      exact addVec_length _ _ hst (by simp [Weights.divideOnDomain])
  have hhl : hx.length = 256 := by
    rw [hhx]
    apply foldl_inv_mem (fun (st : List K) => st.length = 256) _ _ _ List.length_replicate
    intro st e he hst
    have hmem : e.1 ∈ groups.filterMap id := (List.of_mem_zip he).1
    obtain ⟨o, ho, hoe⟩ := List.mem_filterMap.mp hmem
    obtain ⟨k, hk1, hk2⟩ := List.getElem_of_mem ho
    have hgd : groups.getD k none = some e.1 := by
      rw [List.getD_eq_getElem?_getD, List.getElem?_eq_getElem hk1, Option.getD_some, hk2]
      exact hoe
    exact addVec_length _ _ hst (by rw [List.length_map]; exact hk.vec k e.1 hgd)
  -- h − g
  rw [foldl_set_map 0 (fun k _ => hx.getD k 0 - g.getD k 0) _ _ 256 List.length_replicate (fun _ _ _ _ => rfl)]
  have hmg : (List.range 256).map (fun k => hx.getD k 0 - g.getD k 0) = List.zipWith (· - ·) hx g := by
    rw [zipWith_eq_range_map _ hx g 0 0 (by rw [hhl, hgl]), hhl]
  rw [hmg]
  have h28 : (2 : Nat) ^ cfg.rounds = 256 := by rw [hr]; rfl
  rw [← hipa, createIPAProof_eq enc cfg ms hms _ _ _ t (by rw [hsrs, h28])
    (by rw [List.length_zipWith, hhl, hgl, h28]; rfl) (by rw [hbv, h28])]
  unfold ofModelP ofModelMP
  simp only
  cases (ipaProve enc cfg (Tr.appendPoint enc tr3 (msm cfg.srs hx) Label.E) (msm cfg.srs hx - msm cfg.srs g)
    (List.zipWith (· - ·) hx g) t).1 <;> rfl

end GoIpa.Tie.ProtocolMp
