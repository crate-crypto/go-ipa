/-
  Tie T1 for C15, `Inverse`: the limb arithmetic of `fr.Element.Inverse` (binary extended Euclid on
  Montgomery representations) translated piece by piece from the current source (`Gen/FrInverse.lean`:
  the halving-loop body, its condition, the comparison `bigger`, the subtract-and-correct branch, the
  exit test, the conditional `+= q`, the initial `u`, `s`).  Proved on the translated pieces, for all
  limb vectors: the 256-bit right shift `x[i]>>1 | x[i+1]<<63` halves the value (`shr_or`, `shrL_spec`),
  `+= q` adds the modulus modulo 2^256 (`addQL_spec`), the four-limb subtraction with its borrow
  (`subL_spec`), `invHalve_spec`, `invSub_spec` (= the model's `subMod`), `invEven_iff`, `invBigger_iff`,
  `invIsOne_iff`, `init_vals`; and the loop skeleton — which is unbounded in Go and pinned as text by
  `Tie.FrConsts.untranslated_bodies` — written over these pieces (`goHalve`, `goLoop`) computes the
  model's `FrInv.halve` / `FrInv.loop` on the 256-bit values (`goHalve_spec`, `goLoop_spec`,
  `inverse_pieces_spec`), the functions `Lemmas/InverseProof` proves correct (`inverseMont_spec`,
  `inverseValue_eq_inv : Inverse(a) = a⁻¹`).
-/
import GoIpa.Gen.FrInverse
import GoIpa.Model.FrInverse
import GoIpa.Lemmas.Limbs4
namespace GoIpa.Tie.FrInverse
open GoIpa GoIpa.Limbs GoIpa.Gen.FrInverse

attribute [local irreducible] sub64 add64

theorem set0 (a b c d x : Nat) : Big.setLimb ⟨a, b, c, d⟩ (0 : Int) x = ⟨x, b, c, d⟩ := rfl
theorem set1 (a b c d x : Nat) : Big.setLimb ⟨a, b, c, d⟩ (1 : Int) x = ⟨a, x, c, d⟩ := rfl
theorem set2 (a b c d x : Nat) : Big.setLimb ⟨a, b, c, d⟩ (2 : Int) x = ⟨a, b, x, d⟩ := rfl
theorem set3 (a b c d x : Nat) : Big.setLimb ⟨a, b, c, d⟩ (3 : Int) x = ⟨a, b, c, x⟩ := rfl

theorem and_one (x : Nat) : x &&& 1 = x % 2 := Nat.and_one_is_mod x

/-- one limb of the 256-bit right shift: `a>>1 | b<<63` (64-bit wrap) -/
theorem shr_or (a b : Nat) (ha : a < W) : (a >>> 1) ||| ((b <<< 63) % W) = a / 2 + (b % 2) * 2 ^ 63 := by
  have h1 : a >>> 1 = a / 2 := by rw [Nat.shiftRight_eq_div_pow]
  have h2 : (b <<< 63) % W = (b % 2) <<< 63 := by
    rw [Nat.shiftLeft_eq, Nat.shiftLeft_eq]
    have : W = 2 * 2 ^ 63 := by decide
    rw [this, Nat.mul_mod_mul_right]
  have h3 : a / 2 < 2 ^ 63 := by unfold W at ha; omega
  rw [h1, h2, Nat.or_comm, ← Nat.shiftLeft_add_eq_or_of_lt h3, Nat.shiftLeft_eq]
  omega

theorem W256_eq : FrInv.W256 = W * W * W * W := by decide

/-- `v[0]&1 == 0` ⇔ the 256-bit value is even -/
theorem invEven_iff (v : L4) : go_invEven v = true ↔ v.val % 2 = 0 := by
  unfold go_invEven
  rw [decide_eq_true_eq, limb_0, and_one, v.val_mod_two]

/-- `(u[0] == 1) && (u[3]|u[2]|u[1]) == 0` ⇔ the value is 1 -/
theorem invIsOne_iff (u : L4) (hu : u.ok) : go_invIsOne u = true ↔ u.val = 1 := by
  unfold go_invIsOne
  rw [decide_eq_true_eq, limb_0, limb_1, limb_2, limb_3]
  simp only [Nat.or_eq_zero_iff]
  obtain ⟨h0, h1, h2, h3⟩ := hu
  unfold L4.val W at *
  constructor
  · rintro ⟨h0, ⟨h3, h2⟩, h1⟩; rw [h0, h1, h2, h3]
  · intro h; omega

/-- `bigger` ⇔ `u ≤ v` as 256-bit values -/
theorem invBigger_iff (v u : L4) (hv : v.ok) (hu : u.ok) : go_invBigger v u = true ↔ u.val ≤ v.val := by
  unfold go_invBigger
  rw [decide_eq_true_eq, ← Nat.not_lt, val_lt_iff hv hu]
  rfl

/-- the 256-bit right shift by one, limb by limb -/
def shrL (a : L4) : L4 :=
  ⟨(a.l0 >>> 1) ||| ((a.l1 <<< 63) % W), (a.l1 >>> 1) ||| ((a.l2 <<< 63) % W), (a.l2 >>> 1) ||| ((a.l3 <<< 63) % W), a.l3 >>> 1⟩

/-- `s += q` on four limbs, the carry out of the top limb dropped -/
def addQL (s : L4) : L4 :=
  let p1 := add64 s.l0 8429901452645165025 0
  let p2 := add64 s.l1 18415085837358793841 p1.2
  let p3 := add64 s.l2 922804724659942912 p2.2
  let p4 := add64 s.l3 2088379214866112338 p3.2
  ⟨p1.1, p2.1, p3.1, p4.1⟩

/-- `a -= b` on four limbs: the difference and the borrow out of the top limb -/
def subL (a b : L4) : L4 × Nat :=
  let p1 := sub64 a.l0 b.l0 0
  let p2 := sub64 a.l1 b.l1 p1.2
  let p3 := sub64 a.l2 b.l2 p2.2
  let p4 := sub64 a.l3 b.l3 p3.2
  (⟨p1.1, p2.1, p3.1, p4.1⟩, p4.2)

theorem addQL_eq (s : L4) : addQL s = (add4 s qL).1 := rfl
theorem subL_eq (a b : L4) : subL a b = sub4 a b := rfl

-- (the constructors first: the kernel, which cannot be told to leave `add64` alone, does not come back
-- from `Big.limb (Big.setLimb s ..) ..` on a variable `s`)
theorem invIf1_eq (s : L4) : go_invIf1 s = addQL s := by
  obtain ⟨s0, s1, s2, s3⟩ := s
  rfl

theorem invHalve_unfold (v s : L4) :
    go_invHalve v s = (shrL v, shrL (if (s.l0 &&& 1) = 1 then addQL s else s)) := by
  have h : go_invHalve v s = (shrL v, shrL (if (s.l0 &&& 1) = 1 then go_invIf1 s else s)) := by
    obtain ⟨v0, v1, v2, v3⟩ := v
    obtain ⟨s0, s1, s2, s3⟩ := s
    rfl
  rw [h, invIf1_eq]

theorem shrL_spec (a : L4) (ha : a.ok) : (shrL a).ok ∧ (shrL a).val = a.val / 2 := by
  obtain ⟨h0, h1, h2, h3⟩ := ha
  unfold shrL
  rw [shr_or _ _ h0, shr_or _ _ h1, shr_or _ _ h2, Nat.shiftRight_eq_div_pow]
  unfold L4.ok L4.val W at *
  dsimp only
  refine ⟨⟨?_, ?_, ?_, ?_⟩, ?_⟩ <;> omega

theorem addQL_spec (s : L4) (hs : s.ok) : (addQL s).ok ∧ (addQL s).val = (s.val + R) % (W * W * W * W) := by
  rw [addQL_eq, ← qL_val]
  exact ⟨(add4_spec hs qL_ok).1, add4_val hs qL_ok⟩

/-- **the body of the halving loops**: `v ← v/2`, `s ← (s odd ? (s + q) mod 2^256 : s)/2` -/
theorem invHalve_spec (v s : L4) (hv : v.ok) (hs : s.ok) :
    (go_invHalve v s).1.ok ∧ (go_invHalve v s).2.ok ∧ (go_invHalve v s).1.val = v.val / 2 ∧
      (go_invHalve v s).2.val = (if s.val % 2 = 1 then (s.val + R) % FrInv.W256 else s.val) / 2 := by
  rw [invHalve_unfold, W256_eq, and_one, ← s.val_mod_two]
  obtain ⟨vo, vv⟩ := shrL_spec v hv
  obtain ⟨ao, av⟩ := addQL_spec s hs
  split
  · obtain ⟨so, sv⟩ := shrL_spec (addQL s) ao
    exact ⟨vo, so, vv, by rw [sv, av]⟩
  · obtain ⟨so, sv⟩ := shrL_spec s hs
    exact ⟨vo, so, vv, sv⟩

theorem invSub_unfold (v u s r : L4) :
    go_invSub v u s r = ((subL v u).1, if (subL s r).2 = 1 then addQL (subL s r).1 else (subL s r).1) := by
  have h : go_invSub v u s r = ((subL v u).1, if (subL s r).2 = 1 then go_invIf1 (subL s r).1 else (subL s r).1) := by
    obtain ⟨v0, v1, v2, v3⟩ := v
    obtain ⟨u0, u1, u2, u3⟩ := u
    obtain ⟨s0, s1, s2, s3⟩ := s
    obtain ⟨r0, r1, r2, r3⟩ := r
    rfl
  rw [h, invIf1_eq]

theorem subL_spec (a b : L4) (ha : a.ok) (hb : b.ok) :
    (subL a b).1.ok ∧ (subL a b).1.val = (a.val + W * W * W * W - b.val) % (W * W * W * W) ∧
      (subL a b).2 = if a.val < b.val then 1 else 0 :=
  ⟨(sub4_spec ha hb).1, sub4_val ha hb, sub4_borrow ha hb⟩

/-- **the subtract-and-correct branch**: `v ← v − u` (mod 2^256), `s ← s − r` corrected by `+q` when it
borrowed — the model's `subMod` -/
theorem invSub_spec (v u s r : L4) (hv : v.ok) (hu : u.ok) (hs : s.ok) (hr : r.ok) :
    (go_invSub v u s r).1.ok ∧ (go_invSub v u s r).2.ok ∧
      (go_invSub v u s r).1.val = (v.val + FrInv.W256 - u.val) % FrInv.W256 ∧
      (go_invSub v u s r).2.val = FrInv.subMod s.val r.val := by
  rw [invSub_unfold, W256_eq]
  obtain ⟨vo, vv, _⟩ := subL_spec v u hv hu
  obtain ⟨so, sv, sb⟩ := subL_spec s r hs hr
  unfold FrInv.subMod
  rw [W256_eq, sb]
  by_cases h : s.val < r.val
  · obtain ⟨ao, av⟩ := addQL_spec (subL s r).1 so
    rw [if_pos h, if_pos rfl, if_pos h]
    exact ⟨vo, ao, vv, by rw [av, sv]⟩
  · rw [if_neg h, if_neg Nat.zero_ne_one, if_neg h]
    exact ⟨vo, so, vv, sub4_of_le hs hr (Nat.le_of_not_lt h)⟩

theorem init_vals : invInitU.val = R ∧ invInitS.val = FrInv.rSquare ∧ invInitU.ok ∧ invInitS.ok := by
  refine ⟨by decide +kernel, by decide +kernel, ?_, ?_⟩ <;> (unfold L4.ok; decide +kernel)

/-! ### the loop skeleton (pinned text: `Tie.FrConsts.untranslated_bodies`) over the translated pieces -/

/-- `for v[0]&1 == 0 { halve }`, cut off after `fuel` iterations -/
def goHalve : Nat → L4 → L4 → L4 × L4
  | 0, v, s => (v, s)
  | fuel + 1, v, s => if go_invEven v = true then goHalve fuel (go_invHalve v s).1 (go_invHalve v s).2 else (v, s)

theorem goHalve_spec : ∀ (fuel : Nat) (v s : L4), v.ok → s.ok →
    (goHalve fuel v s).1.ok ∧ (goHalve fuel v s).2.ok ∧
      ((goHalve fuel v s).1.val, (goHalve fuel v s).2.val) = FrInv.halve fuel v.val s.val := by
  intro fuel
  induction fuel with
  | zero => intro v s hv hs; exact ⟨hv, hs, rfl⟩
  | succ fuel ih =>
    intro v s hv hs
    unfold goHalve FrInv.halve
    by_cases he : v.val % 2 = 0
    · have he' : go_invEven v = true := (invEven_iff v).2 he
      obtain ⟨o1, o2, e1, e2⟩ := invHalve_spec v s hv hs
      rw [if_pos he', if_pos he]
      obtain ⟨r1, r2, r3⟩ := ih _ _ o1 o2
      refine ⟨r1, r2, ?_⟩
      rw [r3, e1, e2]
    · have he' : ¬ go_invEven v = true := fun h => he ((invEven_iff v).1 h)
      rw [if_neg he', if_neg he]
      exact ⟨hv, hs, rfl⟩

/-- the outer loop over the pieces: halve both pairs, subtract the smaller from the larger, leave when `u` or `v`
is one — `fuel` outer iterations, 256 halvings each (a 256-bit value has at most 256 trailing zeros) -/
def goLoop : Nat → L4 → L4 → L4 → L4 → L4
  | 0, _, _, _, _ => ⟨0, 0, 0, 0⟩
  | fuel + 1, u, v, r, s =>
    let vs := goHalve 256 v s
    let ur := goHalve 256 u r
    let v := vs.1
    let s := vs.2
    let u := ur.1
    let r := ur.2
    if go_invBigger v u = true then
      let v' := (go_invSub v u s r).1
      let s' := (go_invSub v u s r).2
      if go_invIsOne u = true then r else if go_invIsOne v' = true then s' else goLoop fuel u v' r s'
    else
      let u' := (go_invSub u v r s).1
      let r' := (go_invSub u v r s).2
      if go_invIsOne u' = true then r' else if go_invIsOne v = true then s else goLoop fuel u' v r' s

/-- **the loop over the translated pieces computes the model's `FrInv.loop`** (the function
`InverseProof.inverseMont_spec` / `inverseValue_eq_inv` are about), on the 256-bit values -/
theorem goLoop_spec : ∀ (fuel : Nat) (u v r s : L4), u.ok → v.ok → r.ok → s.ok →
    (goLoop fuel u v r s).ok ∧ (goLoop fuel u v r s).val = FrInv.loop fuel u.val v.val r.val s.val := by
  intro fuel
  induction fuel with
  | zero =>
    intro u v r s _ _ _ _
    refine ⟨?_, rfl⟩
    unfold goLoop L4.ok; decide
  | succ fuel ih =>
    intro u v r s hu hv hr hs
    unfold goLoop FrInv.loop
    obtain ⟨vo, so, evs⟩ := goHalve_spec 256 v s hv hs
    obtain ⟨uo, ro, eur⟩ := goHalve_spec 256 u r hu hr
    simp only
    rw [← evs, ← eur]
    simp only
    generalize (goHalve 256 v s).1 = v1 at *
    generalize (goHalve 256 v s).2 = s1 at *
    generalize (goHalve 256 u r).1 = u1 at *
    generalize (goHalve 256 u r).2 = r1 at *
    by_cases hb : u1.val ≤ v1.val
    · have hb' : go_invBigger v1 u1 = true := (invBigger_iff v1 u1 vo uo).2 hb
      obtain ⟨o1, o2, e1, e2⟩ := invSub_spec v1 u1 s1 r1 vo uo so ro
      rw [if_pos hb', if_pos (show v1.val ≥ u1.val from hb)]
      by_cases h1 : u1.val = 1
      · rw [if_pos ((invIsOne_iff u1 uo).2 h1), if_pos h1]
        exact ⟨ro, rfl⟩
      · have h1' : ¬ go_invIsOne u1 = true := fun h => h1 ((invIsOne_iff u1 uo).1 h)
        rw [if_neg h1', if_neg h1, ← e1, ← e2]
        by_cases h2 : (go_invSub v1 u1 s1 r1).1.val = 1
        · rw [if_pos ((invIsOne_iff _ o1).2 h2), if_pos h2]
          exact ⟨o2, rfl⟩
        · have h2' : ¬ go_invIsOne (go_invSub v1 u1 s1 r1).1 = true := fun h => h2 ((invIsOne_iff _ o1).1 h)
          rw [if_neg h2', if_neg h2]
          exact ih _ _ _ _ uo o1 ro o2
    · have hb' : ¬ go_invBigger v1 u1 = true := fun h => hb ((invBigger_iff v1 u1 vo uo).1 h)
      obtain ⟨o1, o2, e1, e2⟩ := invSub_spec u1 v1 r1 s1 uo vo ro so
      rw [if_neg hb', if_neg (show ¬ v1.val ≥ u1.val from hb), ← e1, ← e2]
      by_cases h1 : (go_invSub u1 v1 r1 s1).1.val = 1
      · rw [if_pos ((invIsOne_iff _ o1).2 h1), if_pos h1]
        exact ⟨o2, rfl⟩
      · have h1' : ¬ go_invIsOne (go_invSub u1 v1 r1 s1).1 = true := fun h => h1 ((invIsOne_iff _ o1).1 h)
        rw [if_neg h1', if_neg h1]
        by_cases h2 : v1.val = 1
        · rw [if_pos ((invIsOne_iff v1 vo).2 h2), if_pos h2]
          exact ⟨so, rfl⟩
        · have h2' : ¬ go_invIsOne v1 = true := fun h => h2 ((invIsOne_iff v1 vo).1 h)
          rw [if_neg h2', if_neg h2]
          exact ih _ _ _ _ o1 vo o2 so

/-- **`Inverse` on a non-zero operand**: from `u = q`, `v = x`, `r = 0`, `s = 2^512 mod q` the loop over the
translated pieces returns limbs whose 256-bit value is the model's `FrInv.inverseMont x` — of which
`InverseProof.inverseMont_spec` shows `· x ≡ 2^512 (mod r)`, i.e. the Montgomery form of the inverse, and
`inverseValue_eq_inv` that `Inverse(a) = a⁻¹`. -/
theorem inverse_pieces_spec (x : L4) (hx : x.ok) (h0 : x.val ≠ 0) :
    (goLoop (R + x.val) invInitU x ⟨0, 0, 0, 0⟩ invInitS).ok ∧
      (goLoop (R + x.val) invInitU x ⟨0, 0, 0, 0⟩ invInitS).val = FrInv.inverseMont x.val := by
  obtain ⟨hu, hs, ou, os⟩ := init_vals
  have oz : (⟨0, 0, 0, 0⟩ : L4).ok := by unfold L4.ok; decide
  obtain ⟨ok, e⟩ := goLoop_spec (R + x.val) invInitU x ⟨0, 0, 0, 0⟩ invInitS ou hx oz os
  refine ⟨ok, ?_⟩
  unfold FrInv.inverseMont
  rw [if_neg h0, e, hu, hs]
  rfl

end GoIpa.Tie.FrInverse
