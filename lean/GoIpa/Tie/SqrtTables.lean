/-
  Tie T1 for C17, the tables: the table-building closures of `init()` in
  `bandersnatch/fp/sqrt.go` — the dyadic roots `ret[i] = ret[i−1]²` from the hard-coded primitive
  `2^32`-th root of unity, and the precomputed blocks `blocks[i][j] = blocks[i][j−1]·roots[8i]` from
  `blocks[i][0] = 1` — translated from the current source (`Gen/SqrtFp.lean`: `go_dyadicRoots`,
  `go_blocks`, `rootLiteral`, `reconIndex`).  Proved: over any field the roots are the iterated
  squares and the blocks the iterated products (`dyadicRoots_spec`, `blocks_spec`); at the base field
  they are the model's `dyadicRoots`, `precompBlock` and `g8` (`dyadicRoots_model`, `blocks_model`,
  `recon_model`) — the tables `Tie.SqrtFp.sqrtPrecomp_eq` takes as parameters and
  `SqrtPre.sqrtPrecomp_spec` is proved for.  The look-up-table closure (a Go map) is translated as an association
  list with the newest entry first: `lut_spec` (entry `i` is `key(recon^i) ↦ (256 − i) mod 256`), `lut_model`
  (= the model's `dlogLUT`, reversed) and `lutLookup_model` (reading it = the model's look-up, because the 256 keys
  are pairwise distinct: `C17.lut_keys_distinct`).
-/
import GoIpa.Lemmas.LoopLemmas
import GoIpa.Lemmas.ZpField
import GoIpa.Model.Sqrt
import GoIpa.Tie.SqrtFp
import GoIpa.Props.C17
namespace GoIpa.Tie.SqrtTables
open GoIpa GoIpa.Gen.SqrtFp GoIpa.Tie.SqrtFp

section
variable {K : Type} [Mul K] [One K] [Zero K]

/-- `r^j` as the loop computes it: `j` multiplications by `r` from the left-hand accumulator 1 -/
def powL (r : K) : Nat → K
  | 0 => 1
  | j + 1 => powL r j * r

/-- **the dyadic roots**: entry `i` is `g` squared `i` times -/
theorem dyadicRoots_spec (g : K) :
    (go_dyadicRoots g).length = 33 ∧ ∀ i, i ≤ 32 → (go_dyadicRoots g).getD i 0 = sqTimesG i g := by
  obtain ⟨hl, hv⟩ := Loop.forNat_fill (0 : K) (fun _ a => a * a) 1 33 ((List.replicate 33 0).set 0 g) (by decide) (by simp)
  refine ⟨hl.trans (by simp), fun i hi => ?_⟩
  induction i with
  | zero => exact (hv 0).trans (by simp [sqTimesG])
  | succ i ih =>
    refine (hv (i + 1)).trans ?_
    rw [if_pos (by omega), Nat.add_sub_cancel]
    exact (congrArg (fun a => a * a) (ih (by omega))).trans (sqTimesG_sq i g).symm

/-- a row that starts with `1` and is filled by `row[j] = row[j−1]·r` holds the powers of `r` -/
theorem row_fill (r : K) (row : List K) (hrow : row.length = 256) (h0 : row.getD 0 0 = 1) :
    let res := Loop.forNat 1 256 row (fun j row => row.set j (row.getD (j - 1) 0 * r))
    res.length = 256 ∧ ∀ j, j < 256 → res.getD j 0 = powL r j := by
  obtain ⟨hl, hv⟩ := Loop.forNat_fill (0 : K) (fun _ a => a * r) 1 256 row (by decide) (by omega)
  refine ⟨hl.trans hrow, fun j hj => ?_⟩
  induction j with
  | zero => exact (hv 0).trans h0
  | succ j ih =>
    refine (hv (j + 1)).trans ?_
    rw [if_pos (by omega), Nat.add_sub_cancel]
    exact congrArg (· * r) (ih (by omega))

/-- the inner loop of the blocks closure on row `i`: row `i` becomes the powers of `r` -/
theorem blocks_inner (r : K) (i : Nat) (blocks : List (List K)) (hi : i < blocks.length)
    (hrow : (blocks.getD i []).length = 256) (h0 : (blocks.getD i []).getD 0 0 = 1) :
    let res := Loop.forNat 1 256 blocks (fun j blocks =>
      blocks.set i ((blocks.getD i []).set j (((blocks.getD i []).getD (j - 1) 0) * r)))
    res.length = blocks.length ∧ (∀ i', i' ≠ i → res.getD i' [] = blocks.getD i' []) ∧
      (res.getD i []).length = 256 ∧ ∀ j, j < 256 → (res.getD i []).getD j 0 = powL r j := by
  intro res
  have e : res = blocks.set i _ := Loop.forNat_slot [] (fun j row => row.set j (row.getD (j - 1) 0 * r)) i 1 256 blocks hi
  rw [e, Loop.getD_set_self _ _ _ _ hi]
  exact ⟨List.length_set, fun i' h => Loop.getD_set_ne _ _ _ _ _ h.symm, row_fill r _ hrow h0⟩

/-- **the precomputed blocks**: `blocks[i][j] = roots[8i]^j` (`j` multiplications from 1) -/
theorem blocks_spec (roots : List K) :
    ∀ i, i < 4 → ∀ j, j < 256 → ((go_blocks roots).getD i []).getD j 0 = powL (roots.getD (i * 8) 0) j := by
  intro i hi j hj
  unfold go_blocks
  have c1 : sqrtParam_Blocks = 4 := rfl
  have c2 : sqrtParam_BlockSize = 8 := rfl
  have c3 : (1 <<< 8 : Nat) = 256 := rfl
  simp only [c1, c2, c3, Loop.forNat_zero]
  -- iteration `i` rewrites row `i` only, so the table is the list of the finished rows
  rw [Loop.foldl_set_map ([] : List K) (fun i row =>
      Loop.forNat 1 256 (row.set 0 1) (fun j row => row.set j (row.getD (j - 1) 0 * roots.getD (i * 8) 0)))
    _ _ 4 List.length_replicate (fun l k hk hl => by
      rw [Loop.forNat_slot [] (fun j row => row.set j (row.getD (j - 1) 0 * roots.getD (k * 8) 0)) k 1 256 _
        (by rw [List.length_set]; omega), Loop.getD_set_self _ _ _ _ (by omega), List.set_set]),
    Loop.getD_map_range _ _ _ _ hi, Loop.getD_replicate _ _ _ _ hi]
  exact (row_fill _ _ (by rw [List.length_set, List.length_replicate])
    (Loop.getD_set_self _ _ _ _ (by rw [List.length_replicate]; decide))).2 j hj

end

theorem toZ_sqTimesG (i : Nat) (g : Fp) : Zp.toZ (sqTimesG i g) = Zp.toZ g ^ (2 ^ i) := by
  induction i generalizing g with
  | zero => simp [sqTimesG]
  | succ i ih =>
    show Zp.toZ (sqTimesG i (g * g)) = _
    rw [ih (g * g), Zp.toZ_mul, ← pow_two, ← pow_mul, pow_succ, Nat.mul_comm]

theorem toZ_powL (r : Fp) (j : Nat) : Zp.toZ (powL r j) = Zp.toZ r ^ j := by
  induction j with
  | zero => simp [powL]
  | succ j ih =>
    show Zp.toZ (powL r j * r) = _
    rw [Zp.toZ_mul, ih, pow_succ]

theorem rootLiteral_eq : dyadicRoot = Zp.ofNat P rootLiteral := rfl

/-- **the dyadic roots built by `init()` are the model's** -/
theorem dyadicRoots_model (i : Nat) (hi : i ≤ 32) : (go_dyadicRoots dyadicRoot).getD i 0 = dyadicRoots i := by
  rw [(dyadicRoots_spec dyadicRoot).2 i hi]
  apply Zp.toZ_injective
  rw [toZ_sqTimesG]
  unfold dyadicRoots
  rw [Zp.toZ_pow]

/-- **the precomputed blocks built by `init()` are the model's `precompBlock`** -/
theorem blocks_model (i : Nat) (hi : i < 4) (j : Nat) (hj : j < 256) :
    ((go_blocks (go_dyadicRoots dyadicRoot)).getD i []).getD j 0 = precompBlock i j := by
  rw [blocks_spec _ i hi j hj, dyadicRoots_model (i * 8) (by omega)]
  apply Zp.toZ_injective
  rw [toZ_powL]
  unfold precompBlock
  rw [Zp.toZ_pow, Nat.mul_comm]

/-- the reconstruction root is `dyadicRoots 24 = g8` -/
theorem recon_model : (go_dyadicRoots dyadicRoot).getD reconIndex 0 = g8 := by
  have : reconIndex = 24 := rfl
  rw [this, dyadicRoots_model 24 (by omega)]
  rfl

section
variable {K : Type} [Mul K] [One K] [Zero K]

/-- the key the table is indexed with -/
def lutKey (limb0 : K → Nat) (x : K) : Nat := (limb0 x &&& (0xFFFF : Nat)) % 65536

/-- **the look-up-table closure**: entry `i` (in store order) is `key(recon^i) ↦ (256 − i) mod 256` -/
theorem lut_spec (limb0 : K → Nat) (recon : K) :
    go_lut limb0 recon = ((List.range 256).map (fun i => (lutKey limb0 (powL recon i), (256 - i % 256) % 256))).reverse := by
  unfold go_lut
  have c : lutSize = 256 := rfl
  simp only [c, Loop.forNat_zero]
  have key := Loop.foldl_range_inv
    (fun k (st : List (Nat × Nat) × K) =>
      st.1 = ((List.range k).map (fun i => (lutKey limb0 (powL recon i), (256 - i % 256) % 256))).reverse ∧ st.2 = powL recon k)
    (fun (st : List (Nat × Nat) × K) (k : Nat) =>
      (fun i (st : List (Nat × Nat) × K) =>
        let (ret, rootOfUnity) := st
        let ret := (((limb0 rootOfUnity &&& (0xFFFF : Nat)) % 65536), ((256 - i % 256) % 256)) :: ret
        let rootOfUnity := rootOfUnity * recon
        (ret, rootOfUnity)) k st)
    (([] : List (Nat × Nat)), (1 : K)) 256
    ⟨rfl, rfl⟩
    (by
      rintro k ⟨ret, x⟩ hk ⟨h1, h2⟩
      simp only at h1 h2
      subst h1 h2
      refine ⟨?_, rfl⟩
      simp only [List.range_succ, List.map_append, List.map_cons, List.map_nil, List.reverse_append,
        List.reverse_cons, List.reverse_nil, List.nil_append, List.cons_append]
      rfl)
  exact key.1

end

/-- on a list with pairwise distinct keys, the newest-first and the oldest-first association list read the same -/
theorem find_reverse (l : List (Nat × Nat)) (hn : (l.map (·.1)).Nodup) (k : Nat) :
    l.reverse.find? (fun e => e.1 == k) = l.find? (fun e => e.1 == k) :=
  Option.ext fun e => by
    rw [C17.find?_key_iff _ hn, C17.find?_key_iff _ (by rwa [List.map_reverse, List.nodup_reverse]), List.mem_reverse]

theorem powL_pow (r : Fp) (j : Nat) : powL r j = r ^ j := by
  apply Zp.toZ_injective
  rw [toZ_powL, Zp.toZ_pow]

/-- **the look-up table built by `init()` is the model's `dlogLUT`** (as a Go map: newest entry first) -/
theorem lut_model : go_lut limb0P g8 = dlogLUT.reverse := by
  rw [lut_spec]
  apply congrArg List.reverse
  unfold dlogLUT
  apply List.map_congr_left
  intro i hi
  have hi' : i < 256 := List.mem_range.1 hi
  rw [powL_pow, Nat.mod_eq_of_lt hi']
  exact congrArg (·, _) (montKey_eq _)

/-- reading the translated table = the model's look-up (`Tie.SqrtFp.lutP`), because the 256 keys are
pairwise distinct (`C17.lut_keys_distinct`) -/
theorem lutLookup_model (k : Nat) : lutLookup (go_lut limb0P g8) k = lutP k := by
  unfold lutLookup lutP
  rw [lut_model, find_reverse _ C17.lut_keys_distinct]

end GoIpa.Tie.SqrtTables
