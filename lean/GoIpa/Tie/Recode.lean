/-
  Tie T1 for the signed-digit recoding of `partitionScalars` (bandersnatch/multiexp.go): one
  iteration of the chunk loop — digit = carry + window, the borrow when the digit reaches
  `2^(c-1)`, the encoding of a negative digit as `(−digit−1) | msbWindow`, the two stores into the
  output limbs — translated from the current source on every run (`go/cmd/extract/recode.go` →
  `Gen/Recode.lean`), **is** the model's `partitionStep`, the step function of
  `PipBits.step` / `loop_inv` / `partitionScalar_spec` (the recoding invariant
  `Σ_{j<k} d_j 2^(cj) + carry·2^(ck) = s mod 2^(ck)`).

  The selector of the chunk is a parameter of the translation; it is instantiated with the
  model's `mkSelector`, which `Tie.Selector.partitionSelector_eq` identifies with the selector
  statements of the same Go function.
-/
import GoIpa.Gen.Recode
import GoIpa.Model.Pippenger
import GoIpa.Lemmas.LoopLemmas
import GoIpa.Lemmas.BitField
import Mathlib.Tactic.Ring
namespace GoIpa.Tie.Recode
open GoIpa GoIpa.Loop

def castL (l : List Nat) : List Int := l.map (fun (n : Nat) => (n : Int))

theorem get_castL (l : List Nat) (n : Nat) : Loop.get (castL l) (n : Int) 0 = ((l.getD n 0 : Nat) : Int) := by
  rw [get_nat]
  unfold castL
  simp only [List.getD_eq_getElem?_getD, List.getElem?_map]
  cases l[n]? <;> simp

theorem set_castL (l : List Nat) (n v : Nat) : Loop.set (castL l) (n : Int) ((v : Nat) : Int) = castL (l.set n v) := by
  rw [set_nat]
  unfold castL
  rw [List.map_set]

/-- the two stores of one digit -/
theorem stores_eq (s : Selector) (out : List Nat) (b : Nat) (hout : out.getD s.index 0 < 2 ^ 64) :
    (if s.multiWord = true then
        Loop.set (Loop.set (castL out) (s.index : Int) (Loop.bor ((out.getD s.index 0 : Nat) : Int) (Loop.shl64 (b : Int) (s.shift : Int))))
          ((s.index : Int) + 1)
          (Loop.bor (Loop.get (Loop.set (castL out) (s.index : Int) (Loop.bor ((out.getD s.index 0 : Nat) : Int) (Loop.shl64 (b : Int) (s.shift : Int)))) ((s.index : Int) + 1) 0)
            (Loop.shr (b : Int) (s.shiftHigh : Int)))
      else Loop.set (castL out) (s.index : Int) (Loop.bor ((out.getD s.index 0 : Nat) : Int) (Loop.shl64 (b : Int) (s.shift : Int))))
      = castL (if s.multiWord = true then
          (out.set s.index ((out.getD s.index 0 ||| (b <<< s.shift)) &&& mask64)).set (s.index + 1)
            ((out.set s.index ((out.getD s.index 0 ||| (b <<< s.shift)) &&& mask64)).getD (s.index + 1) 0 ||| (b >>> s.shiftHigh))
        else out.set s.index ((out.getD s.index 0 ||| (b <<< s.shift)) &&& mask64)) := by
  have h1 : Loop.set (castL out) (s.index : Int) (Loop.bor ((out.getD s.index 0 : Nat) : Int) (Loop.shl64 (b : Int) (s.shift : Int)))
      = castL (out.set s.index ((out.getD s.index 0 ||| (b <<< s.shift)) &&& mask64)) := by
    rw [shl64_natCast, bor_natCast, set_castL, show mask64 = 2 ^ 64 - 1 from rfl, Bits.or_mask_word _ _ hout]
  rw [h1]
  by_cases hmw : s.multiWord = true
  · rw [if_pos hmw, if_pos hmw, ← Int.natCast_add_one, get_castL, shr_natCast, bor_natCast, set_castL]
  · rw [if_neg hmw, if_neg hmw]

/-- **One iteration of the recoding loop of `partitionScalars`, translated from the source, is the
model's `partitionStep`** (output limbs below `2^64`, any incoming carry) -/
theorem recodeStep_eq (c k : Nat) (limbs out : List Nat) (carry : Int)
    (hout : ∀ j, out.getD j 0 < 2 ^ 64) :
    Gen.Recode.recodeStep (c : Int) (((1 <<< (c - 1) : Nat)) : Int) (((1 <<< (c - 1) : Nat)) : Int)
        ((mkSelector c k).index : Int) ((mkSelector c k).mask : Int) ((mkSelector c k).shift : Int)
        ((mkSelector c k).maskHigh : Int) ((mkSelector c k).shiftHigh : Int) (mkSelector c k).multiWord
        (castL limbs) (castL out) carry
      = (castL (partitionStep c limbs (out, carry) k).1, (partitionStep c limbs (out, carry) k).2) := by
  unfold Gen.Recode.recodeStep partitionStep selectBits
  generalize mkSelector c k = s
  have e1 : Loop.get (castL limbs) ((s.index : Int) + 1) 0 = ((limbs.getD (s.index + 1) 0 : Nat) : Int) :=
    get_castL limbs (s.index + 1)
  simp only [get_castL, e1, band_natCast, shr_natCast, shl_natCast]
  -- the digit on both sides
  generalize (limbs.getD s.index 0 &&& s.mask) >>> s.shift = lo
  generalize (limbs.getD (s.index + 1) 0 &&& s.maskHigh) <<< s.shiftHigh = hi
  have hdig : (if s.multiWord = true then carry + (lo : Int) + (hi : Int) else carry + (lo : Int))
      = carry + ((if s.multiWord = true then lo + hi else lo : Nat) : Int) := by
    split <;> push_cast <;> ring
  rw [hdig]
  generalize carry + ((if s.multiWord = true then lo + hi else lo : Nat) : Int) = D
  by_cases hD : D = 0
  · simp [hD, castL]
  · rw [if_neg hD, if_neg hD]
    rw [show Loop.shl 1 (c : Int) = (((1 <<< c : Nat)) : Int) from shl_natCast 1 c]
    generalize (if D ≥ (((1 <<< (c - 1) : Nat)) : Int) then (D - (((1 <<< c : Nat)) : Int), (1 : Int)) else (D, 0)) = P
    obtain ⟨d', c'⟩ := P
    simp only
    by_cases hd : d' ≥ 0
    · rw [if_pos hd, if_pos hd]
      obtain ⟨n, rfl⟩ : ∃ n : Nat, d' = (n : Int) := ⟨d'.toNat, by omega⟩
      simp only [Int.toNat_natCast]
      rw [stores_eq s out n (hout s.index)]
    · rw [if_neg hd, if_neg hd]
      obtain ⟨n, hn⟩ : ∃ n : Nat, -d' - 1 = (n : Int) := ⟨(-d' - 1).toNat, by omega⟩
      simp only [hn, Int.toNat_natCast, bor_natCast]
      rw [stores_eq s out (n ||| 1 <<< (c - 1)) (hout s.index)]

end GoIpa.Tie.Recode
