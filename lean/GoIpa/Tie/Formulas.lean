/-
  Tie T1 for the repository's own curve formulas: the expressions translated from
  `ExtendedAddNormalized`, `PointExtendedNormalized.Neg`, `PointExtendedFromProj`, `computeY`,
  `subgroupCheck`, `mapToBaseField` (Gen/Formulas.lean, regenerated on every run) are the
  model's formulas, over every field; `Equal` has the expected shape.
-/
import Mathlib.Tactic.Ring
import GoIpa.Gen.Formulas
import GoIpa.Model.Element
namespace GoIpa.Tie.Formulas
open GoIpa

variable {F : Type} [Field F]

/-- `ExtendedAddNormalized` hard-codes `a = −5` (`MulBy5` of the negation); on a curve with that
coefficient it is the model's `Ext.addN` (madd-2008-hwcd), coordinate by coordinate -/
theorem extendedAddNormalized_eq (c : Curve F) (ha : c.a = -5) (p : Ext F) (q : ExtN F) :
    Gen.extendedAddNormalized c.a c.d p.X p.Y p.Z p.T q.X q.Y q.T
      = ((Ext.addN c p q).X, (Ext.addN c p q).Y, (Ext.addN c p q).Z, (Ext.addN c p q).T) := by
  unfold Gen.extendedAddNormalized Ext.addN
  simp only [ha]
  refine Prod.ext ?_ (Prod.ext ?_ (Prod.ext ?_ ?_)) <;> simp only <;> push_cast <;> ring

theorem extNormalizedNeg_eq (a d : F) (q : ExtN F) :
    Gen.extNormalizedNeg a d q.X q.Y q.T = ((ExtN.neg q).X, (ExtN.neg q).Y, (ExtN.neg q).T) := rfl

theorem extendedFromProj_eq (a d : F) (p : Proj F) :
    Gen.extendedFromProjT a d p.X p.Y p.Z = (Ext.ofProj p).T := rfl

/-- the radicand of `computeY` is `(a x² − 1)/(d x² − 1)` -/
theorem computeY_radicand (c : Curve F) (x : F) :
    Gen.computeYSquare c.a c.d x = (c.a * (x * x) - 1) * (c.d * (x * x) - 1)⁻¹ := by
  unfold Gen.computeYSquare
  simp only
  ring

/-- the argument of the Legendre symbol in `subgroupCheck` is `1 − a x²` -/
theorem subgroupCheck_arg (c : Curve F) (x : F) : Gen.subgroupCheckArg c.a c.d x = 1 - c.a * (x * x) := by
  unfold Gen.subgroupCheckArg
  simp only
  ring

theorem mapToBaseField_eq (a d : F) (p : Proj F) : Gen.mapToBaseField a d p.X p.Y = p.mapToBase := rfl

/-- `Equal`: copies of the four coordinates, the two `(0,0)` rejections, the cross products
`x₁y₂` and `y₁x₂`, their comparison — the shape of `Proj.equalE` -/
theorem equal_shape : Gen.equalBody =
    ["x1 := p.inner.X", "y1 := p.inner.Y", "x2 := other.inner.X", "y2 := other.inner.Y",
     "if x1.IsZero() && y1.IsZero() { return false }", "if x2.IsZero() && y2.IsZero() { return false }",
     "var lhs fp.Element", "var rhs fp.Element", "lhs.Mul(&x1, &y2)", "rhs.Mul(&y1, &x2)",
     "return lhs.Equal(&rhs)"] := rfl

/-- the model's curve has the hard-coded coefficient -/
theorem bandersnatch_a : bandersnatch.a.val = P - 5 := by decide

end GoIpa.Tie.Formulas
