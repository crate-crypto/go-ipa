/-
  Tie T1 for `banderwagon.BatchNormalize`: the function, translated from the current source on
  every run over a heap of points (`Gen.Elements.go_BatchNormalize`: pointers are heap indices,
  the Go-map de-duplication is the parameter `dedupedElements`, the `parallel.Execute` closure a
  plain loop — see `go/cmd/extract/elements.go`), **is** the model's `batchNormalize heap order`
  (`Model/Batch.lean`), the object of `C19.batchNormalize_spec` / `batchNormalize_fails` /
  `batchNormalize_order_independent`, for EVERY enumeration `order` of in-range pointers:

    * an element with `Z = 0` anywhere in the enumeration: error, heap untouched;
    * otherwise the Montgomery trick (prefix products, one inversion, backward pass) yields the
      inverse of every `Z`, and every enumerated element becomes `(X·Z⁻¹, Y·Z⁻¹, 1)`.
-/
import GoIpa.Gen.Elements
import GoIpa.Model.Batch
import GoIpa.Lemmas.LoopLemmas
import GoIpa.Lemmas.BatchInvert
import Mathlib.Algebra.BigOperators.Group.List.Basic
import Mathlib.Algebra.BigOperators.Ring.List
import Mathlib.Algebra.Field.Basic
import Mathlib.Algebra.GroupWithZero.Basic
import Mathlib.Tactic.FieldSimp
namespace GoIpa.Tie.BatchNormalize
open GoIpa GoIpa.Loop

variable {K : Type} [Field K] [DecidableEq K]

/-! ### the forward pass: prefix products, error on a zero -/

def fwdStep (zs : List K) (o : Option (List K × K)) (k : Nat) : Option (List K × K) :=
  match o with
  | none => none
  | some (invs, acc) => if zs.getD k 0 = 0 then none else some (invs.set k acc, acc * zs.getD k 0)

theorem fwd_none (zs : List K) (n : Nat) : (List.range n).foldl (fwdStep zs) none = none := by
  induction n with
  | zero => rfl
  | succ n ih => rw [List.range_succ, List.foldl_append, ih]; rfl

theorem fwd_zero (zs : List K) (init : Option (List K × K)) :
    ∀ (k : Nat), (∃ j, j < k ∧ zs.getD j 0 = 0) → (List.range k).foldl (fwdStep zs) init = none := by
  intro k
  induction k with
  | zero => intro ⟨j, hj, _⟩; omega
  | succ k ih =>
    intro ⟨j, hj, hz⟩
    rw [List.range_succ, List.foldl_append]
    simp only [List.foldl_cons, List.foldl_nil]
    by_cases hjk : j < k
    · rw [ih ⟨j, hjk, hz⟩]; rfl
    · have : j = k := by omega
      subst this
      cases (List.range j).foldl (fwdStep zs) init with
      | none => rfl
      | some st => obtain ⟨a, b⟩ := st; show (if zs.getD j 0 = 0 then none else _) = none; rw [if_pos hz]

/-- without zeros the forward pass leaves the prefix products and the total product -/
theorem fwd_spec (zs : List K) (m : Nat) (hnz : ∀ j, j < zs.length → zs.getD j 0 ≠ 0) :
    ∀ k, k ≤ zs.length →
    (List.range k).foldl (fwdStep zs) (some (List.replicate m (0 : K), 1))
      = some ((List.range m).map (fun i => if i < k then (zs.take i).prod else 0), (zs.take k).prod) := by
  intro k
  induction k with
  | zero =>
    intro _
    simp only [List.range_zero, List.foldl_nil, List.take_zero, List.prod_nil, Nat.not_lt_zero, ↓reduceIte]
    congr 2
    apply ext_getD _ _ (0 : K) (by simp)
    intro j hj
    rw [List.length_replicate] at hj
    rw [getD_replicate _ _ _ _ hj, getD_map_range _ _ _ _ hj]
  | succ k ih =>
    intro hk
    rw [List.range_succ, List.foldl_append, ih (by omega)]
    simp only [List.foldl_cons, List.foldl_nil, fwdStep]
    rw [if_neg (hnz k (by omega))]
    congr 2
    · apply ext_getD _ _ (0 : K) (by simp)
      intro j hj
      rw [List.length_set, List.length_map, List.length_range] at hj
      rw [getD_set, getD_map_range _ _ _ _ hj, getD_map_range _ _ _ _ hj, List.length_map, List.length_range]
      by_cases hjk : k = j
      · subst hjk; simp [hj]
      · have h1 : ¬ (k = j ∧ k < m) := fun h => hjk h.1
        rw [if_neg h1]
        by_cases hlt : j < k
        · rw [if_pos hlt, if_pos (by omega)]
        · rw [if_neg hlt, if_neg (by omega)]
    · rw [List.prod_take_succ _ _ (by omega)]
      simp [List.getD_eq_getElem?_getD, List.getElem?_eq_getElem (show k < zs.length by omega)]

/-! ### the backward pass -/

def bwdStep (zs : List K) (st : List K × K) (i : Nat) : List K × K :=
  (st.1.set i (st.1.getD i 0 * st.2), st.2 * zs.getD i 0)

theorem take_prod_ne_zero (zs : List K) (hnz : ∀ j, j < zs.length → zs.getD j 0 ≠ 0) (i : Nat) :
    (zs.take i).prod ≠ 0 := by
  apply List.prod_ne_zero
  intro h0
  obtain ⟨j, hj, hz⟩ := List.mem_iff_getElem.mp (List.mem_of_mem_take h0)
  exact hnz j hj (by simp [List.getD_eq_getElem?_getD, List.getElem?_eq_getElem hj, hz])

/-- the backward pass turns the prefix products into the inverses, from the top index down -/
theorem bwd_spec (zs : List K) (m : Nat) (hm : zs.length ≤ m) (hnz : ∀ j, j < zs.length → zs.getD j 0 ≠ 0) :
    ∀ k, k ≤ zs.length →
    (List.range k).foldl (fun st (j : Nat) => bwdStep zs st (zs.length - 1 - j))
        ((List.range m).map (fun i => if i < zs.length then (zs.take i).prod else 0), (zs.take zs.length).prod⁻¹)
      = ((List.range m).map (fun i => if i < zs.length - k then (zs.take i).prod
            else if i < zs.length then (zs.getD i 0)⁻¹ else 0), (zs.take (zs.length - k)).prod⁻¹) := by
  intro k
  induction k with
  | zero =>
    intro _
    simp only [List.range_zero, List.foldl_nil, Nat.sub_zero]
    congr 1
    apply List.map_congr_left
    intro i _
    by_cases h : i < zs.length <;> simp [h]
  | succ k ih =>
    intro hk
    rw [List.range_succ, List.foldl_append, ih (by omega)]
    simp only [List.foldl_cons, List.foldl_nil, bwdStep]
    have hi0 : zs.length - 1 - k < zs.length := by omega
    have hi0m : zs.length - 1 - k < m := by omega
    have e1 : zs.length - k = (zs.length - 1 - k) + 1 := by omega
    have e2 : zs.length - (k + 1) = zs.length - 1 - k := by omega
    have hP := take_prod_ne_zero zs hnz (zs.length - 1 - k)
    have hz := hnz _ hi0
    have hz' : zs.getD (zs.length - 1 - k) 0 = zs[zs.length - 1 - k] := by
      simp [List.getD_eq_getElem?_getD, List.getElem?_eq_getElem hi0]
    have hsplit : (zs.take (zs.length - k)).prod = (zs.take (zs.length - 1 - k)).prod * zs.getD (zs.length - 1 - k) 0 := by
      rw [e1, List.prod_take_succ _ _ hi0, hz']
    congr 1
    · apply ext_getD _ _ (0 : K) (by simp)
      intro j hj
      rw [List.length_set, List.length_map, List.length_range] at hj
      rw [getD_set, getD_map_range _ _ _ _ hj, getD_map_range _ _ _ _ hj, getD_map_range _ _ _ _ hi0m,
        List.length_map, List.length_range]
      by_cases hji : zs.length - 1 - k = j
      · subst hji
        rw [if_pos ⟨rfl, hi0m⟩, if_pos (by omega), if_neg (by omega), if_pos hi0, hsplit]
        field_simp
      · have h1 : ¬ (zs.length - 1 - k = j ∧ zs.length - 1 - k < m) := fun h => hji h.1
        rw [if_neg h1]
        by_cases hlt : j < zs.length - (k + 1)
        · rw [if_pos hlt, if_pos (by omega)]
        · rw [if_neg hlt, if_neg (by omega)]
    · rw [e2, hsplit]
      field_simp

/-! ### the conversion loop and the whole function -/

/-- the three field stores of the conversion loop are one store of the normalised point -/
theorem three_sets (h : List (Proj K)) (p : Nat) (inv : K) :
    (((h.set p { (h.getD p ⟨0, 0, 0⟩) with X := (h.getD p ⟨0, 0, 0⟩).X * inv }).set p
        { ((h.set p { (h.getD p ⟨0, 0, 0⟩) with X := (h.getD p ⟨0, 0, 0⟩).X * inv }).getD p ⟨0, 0, 0⟩) with
          Y := ((h.set p { (h.getD p ⟨0, 0, 0⟩) with X := (h.getD p ⟨0, 0, 0⟩).X * inv }).getD p ⟨0, 0, 0⟩).Y * inv }).set p
      { (((h.set p { (h.getD p ⟨0, 0, 0⟩) with X := (h.getD p ⟨0, 0, 0⟩).X * inv }).set p
        { ((h.set p { (h.getD p ⟨0, 0, 0⟩) with X := (h.getD p ⟨0, 0, 0⟩).X * inv }).getD p ⟨0, 0, 0⟩) with
          Y := ((h.set p { (h.getD p ⟨0, 0, 0⟩) with X := (h.getD p ⟨0, 0, 0⟩).X * inv }).getD p ⟨0, 0, 0⟩).Y * inv }).getD p ⟨0, 0, 0⟩) with
        Z := 1 })
      = h.set p ⟨(h.getD p ⟨0, 0, 0⟩).X * inv, (h.getD p ⟨0, 0, 0⟩).Y * inv, 1⟩ := by
  by_cases hp : p < h.length
  · simp only [List.set_set, getD_set_self _ _ _ _ hp]
  · have hle : h.length ≤ p := by omega
    simp only [List.set_eq_of_length_le hle]

/-- **`BatchNormalize`, translated from the source over a heap, is the model's `batchNormalize`** for
every enumeration `order` of the pointers (any order, repeats allowed, in or out of the heap) -/
theorem batchNormalize_eq {S : Type} [Zero S] (E : ElemEnv K S) (heap : List (Proj K)) (elements : List Int)
    (order : List Nat) (hlen : order.length ≤ elements.length) :
    Gen.Elements.go_BatchNormalize E heap elements (order.map (fun (i : Nat) => (i : Int)))
      = batchNormalize heap order := by
  unfold Gen.Elements.go_BatchNormalize batchNormalize
  set zs : List K := order.map (fun i => (heap.getD i ⟨0, 0, 0⟩).Z) with hzs
  have hzl : zs.length = order.length := by simp [zs]
  have hZ : ∀ k : Nat, k < order.length →
      (Loop.get heap (Loop.get (order.map (fun (i : Nat) => (i : Int))) (k : Int) 0) (⟨0, 0, 0⟩ : Proj K)).Z = zs.getD k 0 := by
    intro k hk
    rw [get_nat, getD_map_cast, get_nat]
    simp [zs, List.getD_eq_getElem?_getD, List.getElem?_eq_getElem hk]
  simp only [List.length_map, Int.toNat_natCast]
  -- the forward pass is the fold of `fwdStep`
  have hfwd : Loop.forUpOpt (0 : Int) ((order.length : Nat) : Int) (List.replicate elements.length (0 : K), (1 : K))
      (fun (i : Int) (st : List K × K) =>
        if (Loop.get heap (Loop.get (order.map (fun (i : Nat) => (i : Int))) i 0) (⟨0, 0, 0⟩ : Proj K)).Z = 0 then none
        else some (Loop.set st.1 i st.2, st.2 * (Loop.get heap (Loop.get (order.map (fun (i : Nat) => (i : Int))) i 0) (⟨0, 0, 0⟩ : Proj K)).Z))
      = (List.range zs.length).foldl (fwdStep zs) (some (List.replicate elements.length (0 : K), 1)) := by
    unfold Loop.forUpOpt
    rw [forUp_zero, hzl]
    apply List.foldl_ext
    intro o k hk
    have hk' := List.mem_range.mp hk
    cases o with
    | none => rfl
    | some st =>
      obtain ⟨a, b⟩ := st
      simp only [fwdStep, hZ k hk', set_nat]
  rw [hfwd]
  have hmodelZ : ∀ j, j < order.length → (heap.getD (order.getD j 0) ⟨0, 0, 0⟩).Z = zs.getD j 0 := by
    intro j hj
    simp [zs, List.getD_eq_getElem?_getD, List.getElem?_eq_getElem hj]
  by_cases hz : ∃ j, j < zs.length ∧ zs.getD j 0 = 0
  · rw [fwd_zero zs _ zs.length hz]
    obtain ⟨j, hj, h0⟩ := hz
    have hany : (order.any fun i => decide ((heap.getD i ⟨0, 0, 0⟩).Z = 0)) = true := by
      rw [List.any_eq_true]
      refine ⟨order.getD j 0, ?_, ?_⟩
      · rw [hzl] at hj
        simp [List.getD_eq_getElem?_getD, List.getElem?_eq_getElem hj]
      · rw [hzl] at hj
        rw [hmodelZ j hj, h0]; simp
    simp only [hany, ↓reduceIte]
  · have hnz : ∀ j, j < zs.length → zs.getD j 0 ≠ 0 := fun j hj h0 => hz ⟨j, hj, h0⟩
    rw [fwd_spec zs elements.length hnz zs.length (le_refl _)]
    have hany : ¬ ((order.any fun i => decide ((heap.getD i ⟨0, 0, 0⟩).Z = 0)) = true) := by
      rw [List.any_eq_true]
      rintro ⟨x, hx, hd⟩
      obtain ⟨j, hj, rfl⟩ := List.mem_iff_getElem.mp hx
      have := hnz j (by rw [hzl]; exact hj)
      apply this
      rw [← hmodelZ j hj]
      simpa [List.getD_eq_getElem?_getD, List.getElem?_eq_getElem hj] using hd
    simp only [hany, ↓reduceIte]
    -- the backward pass
    have hbwd : ∀ (invs0 : List K) (a0 : K),
        Loop.forDown (((order.length : Nat) : Int) - 1) 0 (invs0, a0) (fun (i : Int) (st : List K × K) =>
          (Loop.set st.1 i (Loop.get st.1 i 0 * st.2),
            st.2 * (Loop.get heap (Loop.get (order.map (fun (i : Nat) => (i : Int))) i 0) (⟨0, 0, 0⟩ : Proj K)).Z))
        = (List.range zs.length).foldl (fun st (j : Nat) => bwdStep zs st (zs.length - 1 - j)) (invs0, a0) := by
      intro invs0 a0
      rw [forDown_nat]
      have e : (((order.length : Nat) : Int) - 1 + 1).toNat = zs.length := by omega
      rw [e]
      apply List.foldl_ext
      intro st j hj
      have hj' : j < zs.length := List.mem_range.mp hj
      have e2 : ((order.length : Nat) : Int) - 1 - (j : Int) = ((zs.length - 1 - j : Nat) : Int) := by omega
      rw [e2, hZ _ (by omega)]
      simp only [bwdStep, get_nat, set_nat]
    rw [hbwd]
    have hb := bwd_spec zs elements.length (by omega) hnz zs.length (le_refl _)
    simp only [Nat.sub_self, Nat.not_lt_zero, ↓reduceIte] at hb
    rw [hb]
    simp only
    -- the conversion loop
    congr 1
    rw [forUp_zero, batchInvert_eq_map]
    rw [← foldl_getD _ ((0 : Nat), (0 : K)) (List.zip order (zs.map (·⁻¹)))]
    have hzipl : (List.zip order (zs.map (·⁻¹))).length = order.length := by simp [hzl]
    rw [hzipl]
    apply List.foldl_ext
    intro st k hk
    have hk' : k < order.length := List.mem_range.mp hk
    have hkm : k < elements.length := by omega
    have hzip : (List.zip order (zs.map (·⁻¹))).getD k ((0 : Nat), (0 : K)) = (order.getD k 0, (zs.getD k 0)⁻¹) := by
      have h1 : k < (List.zip order (zs.map (·⁻¹))).length := by rw [hzipl]; exact hk'
      have h2 : k < (zs.map (·⁻¹)).length := by simp [hzl, hk']
      have h3 : k < zs.length := by omega
      simp only [List.getD_eq_getElem?_getD, List.getElem?_eq_getElem h1, List.getElem?_eq_getElem hk',
        List.getElem?_eq_getElem h3, Option.getD_some, List.getElem_zip, List.getElem_map]
    rw [hzip]
    simp only [get_nat, getD_map_cast, set_nat, getD_map_range _ _ _ _ hkm, if_pos (show k < zs.length by omega)]
    exact three_sets st (order.getD k 0) (zs.getD k 0)⁻¹

end GoIpa.Tie.BatchNormalize
