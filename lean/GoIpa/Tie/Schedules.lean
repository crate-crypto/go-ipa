/-
  Tie T1 for C01/C02/C03/C04/C14: the Fiat–Shamir schedule extracted from the current source —
  which operations, with which label variables and which value expressions, in which order and
  loop nesting — is the schedule of the Lean model, prover and verifier agree, the label
  variables hold the specified bytes, and the transcript methods write label-then-message.
-/
import GoIpa.Gen.Schedules
import GoIpa.Model.Ipa
namespace GoIpa.Tie.Schedules
open GoIpa

/-- the multiproof schedule of the specification / of `mpProve` and `mpVerify` -/
def specMp : List String :=
  ["DomainSep labelDomainSep", "loop[", "AppendPoint labelC", "AppendScalar labelZ", "AppendScalar labelY", "]",
   "ChallengeScalar labelR", "AppendPoint labelD", "ChallengeScalar labelT", "AppendPoint labelE"]

/-- the IPA schedule of the specification / of `ipaProve` and `ipaVerify` -/
def specIpa : List String :=
  ["DomainSep labelDomainSep", "AppendPoint labelC", "AppendScalar labelInputPoint", "AppendScalar labelOutputPoint",
   "ChallengeScalar labelW", "loop[", "AppendPoint labelL", "AppendPoint labelR", "ChallengeScalar labelX", "]"]

theorem mp_prover_schedule : Gen.mpProver = specMp ++ ["call:ipa.CreateIPAProof"] := rfl
theorem mp_verifier_schedule : Gen.mpVerifier = specMp ++ ["call:ipa.CheckIPAProof"] := rfl
theorem ipa_prover_schedule : Gen.ipaProver = specIpa := rfl
theorem ipa_verifier_schedule :
    Gen.ipaVerifier ++ Gen.ipaChallenges = specIpa.take 5 ++ ["call:generateChallenges"] ++ specIpa.drop 5 := rfl

/-- the values absorbed: each opening's own commitment, its own evaluation point `zs[i]` and
its own value; `D`, `E`; the IPA commitment, point, value, `L`, `R` -/
theorem mp_prover_args :
    Gen.mpProverArgs = ["", "Cs[i]", "&z", "&y", "", "&D", "", "&E"] ∧
    Gen.mpProverVars.lookup "z" = some "domainToFr(zs[i])" ∧ Gen.mpProverVars.lookup "y" = some "f[zs[i]]" ∧
    Gen.mpProverVars.lookup "f" = some "fs[i]" := ⟨rfl, rfl, rfl, rfl⟩
theorem mp_verifier_args :
    Gen.mpVerifierArgs = ["", "Cs[i]", "&z", "ys[i]", "", "&proof.D", "", "&E"] ∧
    Gen.mpVerifierVars.lookup "z" = some "domainToFr(zs[i])" := ⟨rfl, rfl⟩
theorem ipa_args :
    Gen.ipaProverArgs = ["", "&commitment", "&evalPoint", "&inner_prod", "", "&C_L", "&C_R", ""] ∧
    Gen.ipaVerifierArgs = ["", "&commitment", "&evalPoint", "&result", ""] ∧
    Gen.ipaChallengesArgs = ["&proof.L[i]", "&proof.R[i]", ""] ∧
    Gen.ipaProverVars.lookup "inner_prod" = some "InnerProd(a, b)" ∧
    Gen.ipaProverVars.lookup "b" = some "computeBVector(ic, evalPoint)" ∧
    Gen.ipaVerifierVars.lookup "b" = some "computeBVector(ic, evalPoint)" :=
  ⟨rfl, rfl, rfl, rfl, rfl, rfl⟩

/-- the label variables hold the bytes the model uses -/
theorem mp_labels :
    Gen.mpLabels.map (fun p => str p.2) =
      [Label.C, Label.z, Label.y, Label.D, Label.E, Label.t, Label.r, Label.multiproof] := by decide +kernel
theorem ipa_labels :
    Gen.ipaLabels.map (fun p => str p.2) =
      [Label.ipa, Label.C, Label.inputPoint, Label.outputPoint, Label.w, Label.L, Label.R, Label.x] := by decide +kernel

/-- the transcript methods: label then message, both unconditionally; scalars/points through
their encoders; a challenge separates, flushes, sums, resets and re-absorbs -/
theorem transcript_methods :
    Gen.trAppendMessage = ["t.buff.Write(label)", "t.buff.Write(message)"] ∧
    Gen.trAppendScalar = ["scalar.BytesLE()", "t.AppendMessage(tmpBytes[:], label)"] ∧
    Gen.trAppendPoint = ["point.Bytes()", "t.AppendMessage(tmp_bytes[:], label)"] ∧
    Gen.trDomainSep = ["t.buff.Write(label)"] ∧
    Gen.trChallengeScalar = ["t.DomainSep(label)", "t.state.Write(t.buff.Bytes())", "t.buff.Bytes()", "t.buff.Reset()",
      "t.state.Sum(nil)", "tmp.SetBytesLE(bytes)", "t.state.Reset()", "t.AppendScalar(&tmp, label)"] :=
  ⟨rfl, rfl, rfl, rfl, rfl⟩

end GoIpa.Tie.Schedules
