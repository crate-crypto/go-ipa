/-
  Tie T1 for C16, second part: the encoders `Bytes` / `BytesLE` of `bandersnatch/fr/element.go`
  (translated in `Gen/FrCodec.lean`) and the statements that connect the translated codecs with
  the model's (`Model/Codec.lean`, `Zp.bytesBE`, `Zp.bytesLE`).
-/
import GoIpa.Tie.FrCodec
import GoIpa.Props.C16
namespace GoIpa.Tie.FrCodec
open GoIpa GoIpa.Limbs GoIpa.Cios GoIpa.Gen.FrCodec

/-! ### encoders -/

theorem natToLE_length (len n : Nat) : (natToLE len n).length = len := by
  induction len generalizing n with
  | zero => simp [natToLE]
  | succ k ih => simp [natToLE, ih]

theorem natToLE_add (a b n : Nat) : natToLE (a + b) n = natToLE a n ++ natToLE b (n / 256 ^ a) := by
  induction a generalizing n with
  | zero => simp [natToLE]
  | succ a ih =>
    have : a + 1 + b = (a + b) + 1 := by omega
    rw [this]
    simp only [natToLE, List.cons_append, ih (n / 256)]
    rw [Nat.div_div_eq_div_mul, Nat.pow_succ']

theorem natToLE_mod (a n : Nat) : natToLE a (n % 256 ^ a) = natToLE a n := by
  induction a generalizing n with
  | zero => simp [natToLE]
  | succ a ih =>
    simp only [natToLE]
    have h1 : n % 256 ^ (a + 1) % 256 = n % 256 :=
      Nat.mod_mod_of_dvd n (Dvd.intro_left (256 ^ a) (Nat.pow_succ ..).symm)
    have h2 : n % 256 ^ (a + 1) / 256 = n / 256 % 256 ^ a := by
      rw [Nat.pow_succ']; exact Nat.mod_mul_right_div_self n 256 (256 ^ a)
    rw [h1, h2, ih]

theorem W_pow : W = 256 ^ 8 := by decide

/-- the 32 little-endian bytes of a 4-limb value are the 8 bytes of each limb, in order -/
theorem natToLE_limbs (w : L4) (hw : w.ok) :
    natToLE 32 w.val = natToLE 8 w.l0 ++ (natToLE 8 w.l1 ++ (natToLE 8 w.l2 ++ natToLE 8 w.l3)) := by
  obtain ⟨h0, h1, h2, h3⟩ := hw
  have e1 : natToLE 32 w.val = natToLE 8 w.val ++ natToLE 24 (w.val / 256 ^ 8) := natToLE_add 8 24 w.val
  have e2 : natToLE 24 (w.val / 256 ^ 8) = natToLE 8 (w.val / 256 ^ 8) ++ natToLE 16 (w.val / 256 ^ 8 / 256 ^ 8) :=
    natToLE_add 8 16 _
  have e3 : natToLE 16 (w.val / 256 ^ 8 / 256 ^ 8) =
      natToLE 8 (w.val / 256 ^ 8 / 256 ^ 8) ++ natToLE 8 (w.val / 256 ^ 8 / 256 ^ 8 / 256 ^ 8) := natToLE_add 8 8 _
  rw [e1, e2, e3]
  rw [← natToLE_mod 8 w.val, ← natToLE_mod 8 (w.val / 256 ^ 8), ← natToLE_mod 8 (w.val / 256 ^ 8 / 256 ^ 8),
    ← natToLE_mod 8 (w.val / 256 ^ 8 / 256 ^ 8 / 256 ^ 8)]
  have v0 : w.val % 256 ^ 8 = w.l0 := by unfold L4.val W at *; omega
  have v1 : w.val / 256 ^ 8 % 256 ^ 8 = w.l1 := by unfold L4.val W at *; omega
  have v2 : w.val / 256 ^ 8 / 256 ^ 8 % 256 ^ 8 = w.l2 := by unfold L4.val W at *; omega
  have v3 : w.val / 256 ^ 8 / 256 ^ 8 / 256 ^ 8 % 256 ^ 8 = w.l3 := by unfold L4.val W at *; omega
  rw [v0, v1, v2, v3]

theorem len8 {α : Type} (l : List α) (h : l.length = 8) : ∃ a b c d e f g k, l = [a, b, c, d, e, f, g, k] := by
  rcases l with _ | ⟨a, _ | ⟨b, _ | ⟨c, _ | ⟨d, _ | ⟨e, _ | ⟨f, _ | ⟨g, _ | ⟨k, _ | ⟨x, t⟩⟩⟩⟩⟩⟩⟩⟩⟩ <;>
    first
    | exact ⟨_, _, _, _, _, _, _, _, rfl⟩
    | (simp at h)

/-- four 8-byte stores at 24, 16, 8, 0 into a zeroed 32-byte array -/
theorem put4 (A B C D : Bytes) (hA : A.length = 8) (hB : B.length = 8) (hC : C.length = 8) (hD : D.length = 8) :
    let res : Bytes := List.replicate 32 0
    let res := res.take 24 ++ A ++ res.drop (24 + 8)
    let res := res.take 16 ++ B ++ res.drop (16 + 8)
    let res := res.take 8 ++ C ++ res.drop (8 + 8)
    let res := res.take 0 ++ D ++ res.drop (0 + 8)
    res = D ++ (C ++ (B ++ A)) := by
  obtain ⟨a0, a1, a2, a3, a4, a5, a6, a7, rfl⟩ := len8 A hA
  obtain ⟨b0, b1, b2, b3, b4, b5, b6, b7, rfl⟩ := len8 B hB
  obtain ⟨c0, c1, c2, c3, c4, c5, c6, c7, rfl⟩ := len8 C hC
  obtain ⟨d0, d1, d2, d3, d4, d5, d6, d7, rfl⟩ := len8 D hD
  rfl

theorem zeros32 : Big.zeros (codecLimbs * 8) = List.replicate 32 0 := rfl
theorem putBE_nat (res : Bytes) (lo : Nat) (hi : Int) (v : Nat) :
    Big.putBE res (lo : Int) hi v = res.take lo ++ (natToLE 8 v).reverse ++ res.drop (lo + 8) := rfl
theorem putLE_nat (res : Bytes) (lo : Nat) (hi : Int) (v : Nat) :
    Big.putLE res (lo : Int) hi v = res.take lo ++ natToLE 8 v ++ res.drop (lo + 8) := rfl

/-- the store sequence of `Bytes` on a limb vector -/
theorem bytes_limbs (w : L4) (hw : w.ok) :
    Big.putBE (Big.putBE (Big.putBE (Big.putBE (List.replicate 32 0) (24 : Int) (32 : Int) w.l0)
      (16 : Int) (24 : Int) w.l1) (8 : Int) (16 : Int) w.l2) (0 : Int) (8 : Int) w.l3 = natToBE 32 w.val := by
  have e24 : (24 : Int) = ((24 : Nat) : Int) := rfl
  have e16 : (16 : Int) = ((16 : Nat) : Int) := rfl
  have e8 : (8 : Int) = ((8 : Nat) : Int) := rfl
  have e0 : (0 : Int) = ((0 : Nat) : Int) := rfl
  rw [e24, putBE_nat, e16, putBE_nat, e8, putBE_nat, e0, putBE_nat]
  have := put4 (natToLE 8 w.l0).reverse (natToLE 8 w.l1).reverse (natToLE 8 w.l2).reverse (natToLE 8 w.l3).reverse
    (by simp [natToLE_length]) (by simp [natToLE_length]) (by simp [natToLE_length]) (by simp [natToLE_length])
  simp only at this
  rw [this]
  unfold natToBE
  rw [natToLE_limbs w hw]
  simp only [List.reverse_append, List.append_assoc]

theorem bytesLE_limbs (w : L4) (hw : w.ok) :
    Big.putLE (Big.putLE (Big.putLE (Big.putLE (List.replicate 32 0) (24 : Int) (32 : Int) w.l3)
      (16 : Int) (24 : Int) w.l2) (8 : Int) (16 : Int) w.l1) (0 : Int) (8 : Int) w.l0 = natToLE 32 w.val := by
  have e24 : (24 : Int) = ((24 : Nat) : Int) := rfl
  have e16 : (16 : Int) = ((16 : Nat) : Int) := rfl
  have e8 : (8 : Int) = ((8 : Nat) : Int) := rfl
  have e0 : (0 : Int) = ((0 : Nat) : Int) := rfl
  rw [e24, putLE_nat, e16, putLE_nat, e8, putLE_nat, e0, putLE_nat]
  have := put4 (natToLE 8 w.l3) (natToLE 8 w.l2) (natToLE 8 w.l1) (natToLE 8 w.l0)
    (natToLE_length _ _) (natToLE_length _ _) (natToLE_length _ _) (natToLE_length _ _)
  simp only at this
  rw [this, natToLE_limbs w hw]

/-- **`Bytes`**: the 32-byte big-endian encoding of the regular (non-Montgomery) value -/
theorem bytes_spec (z : L4) (hz : z.ok) : go_Bytes z = natToBE 32 (fromMontG z).val := by
  obtain ⟨wok, _, _⟩ := fromMontG_correct z hz
  unfold go_Bytes go_ToRegular go_FromMont
  generalize fromMontG z = w at *
  show Big.putBE (Big.putBE (Big.putBE (Big.putBE (Big.zeros (codecLimbs * 8)) (24 : Int) (32 : Int) (Big.limb w (0 : Int)))
      (16 : Int) (24 : Int) (Big.limb w (1 : Int))) (8 : Int) (16 : Int) (Big.limb w (2 : Int))) (0 : Int) (8 : Int)
      (Big.limb w (3 : Int)) = natToBE 32 w.val
  rw [zeros32, limb_0, limb_1, limb_2, limb_3]
  exact bytes_limbs w wok

/-- **`BytesLE`**: the 32-byte little-endian encoding of the regular value -/
theorem bytesLE_spec (z : L4) (hz : z.ok) : go_BytesLE z = natToLE 32 (fromMontG z).val := by
  obtain ⟨wok, _, _⟩ := fromMontG_correct z hz
  unfold go_BytesLE go_ToRegular go_FromMont
  generalize fromMontG z = w at *
  show Big.putLE (Big.putLE (Big.putLE (Big.putLE (Big.zeros (codecLimbs * 8)) (24 : Int) (32 : Int) (Big.limb w (3 : Int)))
      (16 : Int) (24 : Int) (Big.limb w (2 : Int))) (8 : Int) (16 : Int) (Big.limb w (1 : Int))) (0 : Int) (8 : Int)
      (Big.limb w (0 : Int)) = natToLE 32 w.val
  rw [zeros32, limb_0, limb_1, limb_2, limb_3]
  exact bytesLE_limbs w wok

/-! ### the translated codecs are the model's codecs (`Model/Codec.lean`) -/

/-- **`SetBytes` = `Fr.setBytes`** — for every byte string of every length, every old value of
the receiver and of the pooled `big.Int`, the scalar the returned limbs stand for is the model's. -/
theorem setBytes_eq (pool : Int) (z : L4) (e : Bytes) :
    (fromMontG (go_SetBytes pool z e)).val = (Fr.setBytes e).val := by
  obtain ⟨hr, _, ok⟩ := setBytes_spec pool z e
  rw [(fromMontG_repr _ _ ok hr).1, Nat.mod_mod]; rfl

/-- **`SetBytesLE` = `Fr.setBytesLE`** -/
theorem setBytesLE_eq (pool : Int) (z : L4) (e : Bytes) :
    (fromMontG (go_SetBytesLE pool z e)).val = (Fr.setBytesLE e).val := by
  obtain ⟨hr, _, ok⟩ := setBytesLE_spec pool z e
  rw [(fromMontG_repr _ _ ok hr).1, Nat.mod_mod]; rfl

/-- **`SetBytesLECanonical` = `Fr.setBytesLECanonical`**: same acceptance set (`leNat e < r`), same scalar -/
theorem setBytesLECanonical_eq (pool : Int) (z : L4) (e : Bytes) :
    (go_SetBytesLECanonical pool z e).map (fun x => (fromMontG x).val) =
      (Fr.setBytesLECanonical e).map (fun s => s.val) := by
  obtain ⟨hacc, hrej⟩ := setBytesLECanonical_spec pool z e
  unfold Fr.setBytesLECanonical
  by_cases h : leNat e < R
  · obtain ⟨x, hx, hr, _, ok⟩ := hacc h
    rw [hx, dif_pos h]
    simp only [Option.map_some]
    rw [(fromMontG_repr _ _ ok hr).1, Nat.mod_eq_of_lt h]
  · rw [hrej h, dif_neg h]; rfl

/-- **`Bytes` = `Zp.bytesBE`**, **`BytesLE` = `Zp.bytesLE`** on every Montgomery representation of a scalar -/
theorem bytes_eq (z : L4) (hz : z.ok) (s : Fr) (h : Cios.Repr z s.val) : go_Bytes z = s.bytesBE := by
  rw [bytes_spec z hz, (fromMontG_repr z s.val hz h).1, Nat.mod_eq_of_lt s.lt]; rfl
theorem bytesLE_eq (z : L4) (hz : z.ok) (s : Fr) (h : Cios.Repr z s.val) : go_BytesLE z = s.bytesLE := by
  rw [bytesLE_spec z hz, (fromMontG_repr z s.val hz h).1, Nat.mod_eq_of_lt s.lt]; rfl

theorem R_lt_256 : R < 256 ^ 32 := by decide

/-- **Round trip on the translated code, at the level of the limbs**: encoding a fully reduced
element with `Bytes` (resp. `BytesLE`) and decoding the 32 bytes with `SetBytes` (resp. `SetBytesLE`,
`SetBytesLECanonical`) gives the same four limbs back, whatever the receiver and the pool held. -/
theorem setBytes_bytes_limbs (pool : Int) (z' z : L4) (hz : z.ok) (hr : z.val < R) :
    go_SetBytes pool z' (go_Bytes z) = z := by
  obtain ⟨wok, wlt, we⟩ := fromMontG_correct z hz
  obtain ⟨hrep, hlt, ok⟩ := setBytes_spec pool z' (go_Bytes z)
  apply val_inj ok hz
  have hb : beNat (go_Bytes z) % R = (fromMontG z).val := by
    rw [bytes_spec z hz, C16.beNat_natToBE 32 _ (Nat.lt_trans wlt R_lt_256), Nat.mod_eq_of_lt wlt]
  rw [hb] at hrep
  have h1 : (go_SetBytes pool z' (go_Bytes z)).val ≡ z.val [MOD R] := by
    have we' : (fromMontG z).val * R256 ≡ z.val [MOD R] := we
    unfold Cios.Repr at hrep
    exact Nat.ModEq.trans hrep we'
  have h2 : (go_SetBytes pool z' (go_Bytes z)).val % R = z.val % R := h1
  rwa [Nat.mod_eq_of_lt hlt, Nat.mod_eq_of_lt hr] at h2

theorem setBytesLE_bytesLE_limbs (pool : Int) (z' z : L4) (hz : z.ok) (hr : z.val < R) :
    go_SetBytesLE pool z' (go_BytesLE z) = z := by
  obtain ⟨wok, wlt, we⟩ := fromMontG_correct z hz
  obtain ⟨hrep, hlt, ok⟩ := setBytesLE_spec pool z' (go_BytesLE z)
  apply val_inj ok hz
  have hb : leNat (go_BytesLE z) % R = (fromMontG z).val := by
    rw [bytesLE_spec z hz, C16.leNat_natToLE 32 _ (Nat.lt_trans wlt R_lt_256), Nat.mod_eq_of_lt wlt]
  rw [hb] at hrep
  have h1 : (go_SetBytesLE pool z' (go_BytesLE z)).val ≡ z.val [MOD R] := by
    have we' : (fromMontG z).val * R256 ≡ z.val [MOD R] := we
    unfold Cios.Repr at hrep
    exact Nat.ModEq.trans hrep we'
  have h2 : (go_SetBytesLE pool z' (go_BytesLE z)).val % R = z.val % R := h1
  rwa [Nat.mod_eq_of_lt hlt, Nat.mod_eq_of_lt hr] at h2

theorem setBytesLECanonical_bytesLE_limbs (pool : Int) (z' z : L4) (hz : z.ok) (hr : z.val < R) :
    go_SetBytesLECanonical pool z' (go_BytesLE z) = some z := by
  obtain ⟨wok, wlt, we⟩ := fromMontG_correct z hz
  have hle : leNat (go_BytesLE z) = (fromMontG z).val := by
    rw [bytesLE_spec z hz, C16.leNat_natToLE 32 _ (Nat.lt_trans wlt R_lt_256)]
  obtain ⟨x, hx, hrep, hlt, ok⟩ := (setBytesLECanonical_spec pool z' (go_BytesLE z)).1 (by rw [hle]; exact wlt)
  rw [hx]; refine congrArg some ?_
  apply val_inj ok hz
  rw [hle] at hrep
  have h1 : x.val ≡ z.val [MOD R] := by
    have we' : (fromMontG z).val * R256 ≡ z.val [MOD R] := we
    unfold Cios.Repr at hrep
    exact Nat.ModEq.trans hrep we'
  have h2 : x.val % R = z.val % R := h1
  rwa [Nat.mod_eq_of_lt hlt, Nat.mod_eq_of_lt hr] at h2

/-- nothing emitted by the translator is left without a theorem -/
theorem coverage : translated = ["SetZero", "ToMont", "FromMont", "ToRegular", "setBigInt", "SetBigInt",
    "SetBytes", "SetBytesLE", "SetBytesLECanonical", "Bytes", "BytesLE"] ∧ uintSize64Only = true := ⟨rfl, rfl⟩

/-! non-vacuity: the Montgomery form of 1 (`SetOne`'s limbs) is fully reduced and encodes to 00…01 -/
example : go_Bytes ⟨6347764673676886264, 253265890806062196, 11064306276430008312, 1739710354780652911⟩ = natToBE 32 1 := by
  decide +kernel

end GoIpa.Tie.FrCodec
