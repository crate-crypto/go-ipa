/-
  Tie T1 for the driver `MultiExp` (bandersnatch/multiexp.go): the body of its splitting loop
  `for nbChunks < config.NbTasks { … }`, translated from the current source on every run
  (`go/cmd/extract/multiexpdriver.go` → `Gen/MultiExpDriver.chooseStep`), iterated while its
  condition holds, **is** the model's `chooseSplit` (the object of `C09.chooseSplit_exits` and of
  `multiExp_correct`, which holds for every cost model `bestC`); the remaining statements of the
  driver — length check, default task count, `partitionScalars`, the first-chunk-split decision,
  one goroutine per split but the last, the last split on the caller's goroutine, the fan-in adding
  the partial results in arrival order — are checked as a statement list.
-/
import GoIpa.Gen.MultiExpDriver
import GoIpa.Model.Pippenger
import GoIpa.Lemmas.LoopLemmas
namespace GoIpa.Tie.MultiExpDriver
open GoIpa GoIpa.Loop

/-- the Go loop: run the translated body while `nbChunks < nbTasks` (with fuel) -/
def goChoose (bestC : Int → Int) (nbTasks : Int) : Nat → (Int × Int × Int × Int) → (Int × Int × Int × Int)
  | 0, st => st
  | fuel + 1, (C, nbSplits, nbChunksV, nbPoints) =>
    if nbChunksV < nbTasks then goChoose bestC nbTasks fuel (Gen.MultiExpDriver.chooseStep bestC nbTasks C nbSplits nbChunksV nbPoints)
    else (C, nbSplits, nbChunksV, nbPoints)

/-- one translated iteration, on naturals -/
theorem chooseStep_nat (bestC : Nat → Nat) (hC : ∀ p, 1 ≤ bestC p) (T C0 s k p : Nat) :
    Gen.MultiExpDriver.chooseStep (fun i => ((bestC i.toNat : Nat) : Int)) (T : Int) (C0 : Int) (s : Int) (k : Int) (p : Int)
      = (((bestC p : Nat) : Int),
         ((if nbChunks (bestC p) * s < T then 2 * s else s : Nat) : Int),
         ((nbChunks (bestC p) * s : Nat) : Int),
         ((if nbChunks (bestC p) * s < T then p / 2 else p : Nat) : Int)) := by
  unfold Gen.MultiExpDriver.chooseStep
  simp only [Int.toNat_natCast]
  generalize bestC p = c
  have hnb : (if ((4 : Int) * 64) % (c : Int) ≠ 0 then ((4 : Int) * 64) / (c : Int) + 1 else ((4 : Int) * 64) / (c : Int))
      = ((nbChunks c : Nat) : Int) := by
    unfold nbChunks; split_ifs <;> norm_cast at *
  rw [hnb, ← Int.natCast_mul, show Loop.shl (s : Int) 1 = ((2 * s : Nat) : Int) from shl_natCast s 1,
    show Loop.shr (p : Int) 1 = ((p / 2 : Nat) : Int) from shr_natCast p 1]
  simp only [Int.ofNat_lt]
  split <;> rfl

theorem nbChunks_pos (c : Nat) (hc : 1 ≤ c) (hc256 : c ≤ 256) : 1 ≤ nbChunks c := by
  unfold nbChunks
  have : 1 ≤ 256 / c := (Nat.le_div_iff_mul_le (by omega)).mpr (by omega)
  split <;> omega

/-- **The splitting loop of `MultiExp`, run on the translated body, is the model's `chooseSplit`**
(for every cost model with values in `1..256`; `fuel` large enough for the loop to exit by its own
condition, which `2^fuel · nbSplits ≥ nbTasks` guarantees): same window, same number of splits, same
points per split, and `nbChunks` ends as `nbChunks(c) · nbSplits` -/
theorem goChoose_eq (bestC : Nat → Nat) (hC : ∀ p, 1 ≤ bestC p ∧ bestC p ≤ 256) (T : Nat) :
    ∀ (fuel p s C0 k : Nat), k < T → T ≤ s * 2 ^ fuel →
      goChoose (fun i => ((bestC i.toNat : Nat) : Int)) (T : Int) (fuel + 1) ((C0 : Int), (s : Int), (k : Int), (p : Int))
        = ((((chooseSplit bestC T fuel p s).1 : Nat) : Int),
           (((chooseSplit bestC T fuel p s).2.1 : Nat) : Int),
           ((nbChunks (chooseSplit bestC T fuel p s).1 * (chooseSplit bestC T fuel p s).2.1 : Nat) : Int),
           (((chooseSplit bestC T fuel p s).2.2 : Nat) : Int)) := by
  intro fuel
  induction fuel with
  | zero =>
    intro p s C0 k hk hT
    simp only [Nat.pow_zero, Nat.mul_one] at hT
    have hpos := nbChunks_pos (bestC p) (hC p).1 (hC p).2
    have hge : ¬ (nbChunks (bestC p) * s < T) := by
      have : s ≤ nbChunks (bestC p) * s := Nat.le_mul_of_pos_left _ hpos
      omega
    unfold goChoose
    have hk' : ((k : Nat) : Int) < (T : Int) := by omega
    rw [if_pos hk', chooseStep_nat bestC (fun p => (hC p).1)]
    simp only [hge, ↓reduceIte, goChoose, chooseSplit]
  | succ fuel ih =>
    intro p s C0 k hk hT
    unfold goChoose
    have hk' : ((k : Nat) : Int) < (T : Int) := by omega
    rw [if_pos hk', chooseStep_nat bestC (fun p => (hC p).1)]
    unfold chooseSplit
    simp only
    by_cases hlt : nbChunks (bestC p) * s < T
    · simp only [hlt, ↓reduceIte]
      have := ih (p / 2) (2 * s) (bestC p) (nbChunks (bestC p) * s) hlt
        (by rw [Nat.pow_succ] at hT; rw [Nat.mul_comm 2 s, Nat.mul_assoc, Nat.mul_comm 2 (2 ^ fuel)]; exact hT)
      rw [this, Nat.mul_comm 2 s]
    · simp only [hlt, ↓reduceIte]
      have hge : ¬ ((((nbChunks (bestC p) * s : Nat)) : Int) < (T : Int)) := by omega
      unfold goChoose
      rw [if_neg hge]

/-- the driver around the loop -/
theorem driver_shape : Gen.MultiExpDriver.driver =
    ["nbPoints := len(points)",
     "if nbPoints != len(scalars) { return nil, errors.New(\"len(points) != len(scalars)\") }",
     "if config.NbTasks <= 0 { config.NbTasks = runtime.NumCPU() }",
     "bestC := <cost model>", "var C uint64", "nbSplits := 1", "nbChunks := 0",
     "for nbChunks < config.NbTasks { <chooseStep> }",
     "var smallValues int",
     "scalars, smallValues = partitionScalars(scalars, C, config.ScalarsMont, config.NbTasks)",
     "splitFirstChunk := (float64(smallValues) / float64(len(scalars))) >= 0.1",
     "_p := make([]PointProj, nbSplits-1)", "chDone := make(chan int, nbSplits-1)",
     "for i := 0; i < nbSplits-1; i++ { start := i * nbPoints end := start + nbPoints go func(start, end, i int) { msmInnerPointProj(&_p[i], int(C), points[start:end], scalars[start:end], splitFirstChunk) chDone <- i }(start, end, i) }",
     "msmInnerPointProj(p, int(C), points[(nbSplits-1)*nbPoints:], scalars[(nbSplits-1)*nbPoints:], splitFirstChunk)",
     "for i := 0; i < nbSplits-1; i++ { done := <-chDone p.Add(p, &_p[done]) }",
     "close(chDone)", "return p, nil"] := rfl

/-- `partitionScalars` around its two translated regions (the selector computation: `Tie.Selector`;
one iteration of the chunk loop: `Tie.Recode` + `Tie.Selector.digitRead_eq`): a fresh zeroed result,
the number of chunks `⌈256/c⌉`, one recoding pass per scalar with the carry starting at 0 — after the
optional conversion out of Montgomery form; a scalar that is zero is skipped (its digits stay zero);
small-value counting only feeds the first-chunk-split heuristic — over the ranges of `parallel.Execute`
(which tile `[0, n)`: C20), one send per worker into a channel of capacity `nbTasks`. -/
theorem partition_shape : Gen.MultiExpDriver.partitionOuter =
    ["toReturn := make([]fr.Element, len(scalars))",
     "nbChunks := fr.Limbs * 64 / c",
     "if (fr.Limbs*64)%c != 0 { nbChunks++ }",
     "mask := uint64((1 << c) - 1)", "msbWindow := uint64(1 << (c - 1))", "max := int(1 << (c - 1))",
     "cDivides64 := (64 % c) == 0",
     "selectors := make([]selector, nbChunks)",
     "for chunk := uint64(0); chunk < nbChunks; chunk++ { <selector> }",
     "chSmallValues := make(chan int, nbTasks)",
     "parallel.Execute(len(scalars), func(start, end int) { smallValues := 0 for i := start; i < end; i++ { var carry int scalar := scalars[i] if scalarsMont { scalar.FromMont() } if scalar.IsUint64() { if scalar[0] == 0 { continue } if scalar[0]&mask == scalar[0] { smallValues++ } } for chunk := uint64(0); chunk < nbChunks; chunk++ { recodeStep } } chSmallValues <- smallValues }, nbTasks)",
     "close(chSmallValues)", "smallValues := 0",
     "for o := range chSmallValues { smallValues += o }",
     "return toReturn, smallValues"] := rfl

end GoIpa.Tie.MultiExpDriver
