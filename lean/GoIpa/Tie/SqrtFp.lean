/-
  Tie T1 for C17: the table-driven square root of `bandersnatch/fp/sqrt.go` — `invSqrtEqDyadic`,
  `SqrtPrecomp`, the two table accessors and the `sqrtParam_*` constants — translated statement by
  statement from the current source (`Gen/SqrtFp.lean`, over an abstract field with the look-up
  table, the precomputed blocks and the addition chain as parameters), instantiated with the
  model's tables, **is** the model's `invSqrtEqDyadic` / `Fp.sqrtPrecomp` (`Model/Sqrt.lean`) —
  the functions `SqrtPre.sqrtPrecomp_spec` and `SqrtPre.invSqrt_spec` are about.
-/
import GoIpa.Gen.SqrtFp
import GoIpa.Lemmas.LoopLemmas
import GoIpa.Model.Sqrt
namespace GoIpa.Tie.SqrtFp
open GoIpa GoIpa.Gen.SqrtFp

/-- `x[0]`: the least significant 64-bit limb of the Montgomery representation -/
def limb0P (x : Fp) : Nat := (x.val * 2 ^ 256 % P) % 2 ^ 64

/-- the Go map `sqrtPrecomp_dlogLUT` as a function (a missing key reads 0) -/
def lutP (k : Nat) : Nat := ((dlogLUT.find? (fun e => e.1 == k)).map (·.2)).getD 0

theorem consts : sqrtParam_Blocks = 4 ∧ sqrtParam_BlockSize = 8 ∧ sqrtParam_FirstBlockUnusedBits = 0 ∧
    sqrtParam_BitMask = 255 ∧ BaseField2Adicity = 32 := by decide

theorem and_255 (x : Nat) : x &&& 255 = x % 256 := Nat.and_two_pow_sub_one_eq_mod x 8

theorem and_1 (x : Nat) : x &&& 1 = x % 2 := Nat.and_two_pow_sub_one_eq_mod x 1

/-- the 16-bit key cut from the low limb is the model's `montKey` -/
theorem montKey_eq (x : Fp) : (limb0P x &&& 0xFFFF) % 65536 = montKey x := by
  unfold limb0P montKey
  rw [Nat.and_two_pow_sub_one_eq_mod _ 16, Nat.mod_mod, Nat.mod_mod_of_dvd _ (by decide : 2 ^ 16 ∣ 2 ^ 64)]

theorem negDlog_eq (x : Fp) : go_NegDlog limb0P lutP x = negDlogSmall x := by
  unfold go_NegDlog negDlogSmall lutP
  rw [montKey_eq]

section
variable {K : Type} [Mul K] [One K] [Zero K] [DecidableEq K]

def sqTimesG : Nat → K → K
  | 0, x => x
  | n + 1, x => sqTimesG n (x * x)

def mulBlocksG (blocks : Nat → Nat → K) (n off : Nat) : Nat → Nat → K → K
  | 0, _, acc => acc
  | cnt + 1, j, acc => mulBlocksG blocks n off cnt (j + 1) (acc * blocks (j + off) ((n >>> (8 * j)) % 256))

def invSqrtG (nd : K → Nat) (blocks : Nat → Nat → K) (z : K) : Option K :=
  let p0 := z
  let p1 := sqTimesG 8 p0
  let p2 := sqTimesG 8 p1
  let p3 := sqTimesG 8 p2
  let n0 := nd p3
  if n0 % 2 = 1 then none
  else
    let n1 := n0 ||| (nd (mulBlocksG blocks n0 2 1 0 p2) <<< 8)
    let n2 := n1 ||| (nd (mulBlocksG blocks n1 1 2 0 p1) <<< 16)
    let n3 := n2 ||| (nd (mulBlocksG blocks n2 0 3 0 p0) <<< 24)
    some (mulBlocksG blocks (n3 >>> 1) 0 4 0 1)

omit [One K] [DecidableEq K] in
theorem sqTimesG_sq (n : Nat) (x : K) : sqTimesG n (x * x) = sqTimesG n x * sqTimesG n x := by
  induction n generalizing x with
  | zero => rfl
  | succ n ih => simp only [sqTimesG]; rw [ih (x * x)]

omit [One K] [Zero K] [DecidableEq K] in
theorem forNat_sq (n : Nat) (x : K) : Loop.forNat 0 n x (fun _ a => a * a) = sqTimesG n x := by
  unfold Loop.forNat
  rw [Nat.sub_zero]
  induction n generalizing x with
  | zero => rfl
  | succ n ih => rw [List.range_succ_eq_map, List.foldl_cons, List.foldl_map]; exact ih (x * x)

omit [One K] [DecidableEq K] in
/-- `n` in-place squarings of slot `i` -/
theorem inner_sq (n i : Nat) (l : List K) (hi : i < l.length) :
    Loop.forNat 0 n l (fun _ st => st.set i ((st.getD i 0) * (st.getD i 0))) = l.set i (sqTimesG n (l.getD i 0)) := by
  rw [Loop.forNat_slot 0 (fun _ a => a * a) i 0 n l hi, forNat_sq]

theorem forNat_1_4 {σ : Type} (st : σ) (body : Nat → σ → σ) :
    Loop.forNat 1 4 st body = body 3 (body 2 (body 1 st)) := rfl
theorem forNat_0_4 {σ : Type} (st : σ) (body : Nat → σ → σ) :
    Loop.forNat 0 4 st body = body 3 (body 2 (body 1 (body 0 st))) := rfl
theorem forNat_0_0 {σ : Type} (st : σ) (body : Nat → σ → σ) : Loop.forNat 0 0 st body = st := rfl
theorem forNat_0_1 {σ : Type} (st : σ) (body : Nat → σ → σ) : Loop.forNat 0 1 st body = body 0 st := rfl
theorem forNat_0_2 {σ : Type} (st : σ) (body : Nat → σ → σ) : Loop.forNat 0 2 st body = body 1 (body 0 st) := rfl
theorem forNat_0_3 {σ : Type} (st : σ) (body : Nat → σ → σ) :
    Loop.forNat 0 3 st body = body 2 (body 1 (body 0 st)) := rfl

omit [One K] [DecidableEq K] in
/-- the squaring phase: `powers[i] = z^(2^(8i))` -/
theorem powers_eq (z : K) :
    Loop.forNat 1 4 ((List.replicate 4 (0 : K)).set 0 z) (fun i st =>
      let powers := st
      let powers := powers.set i ((powers.getD (i - (1 : Nat)) 0))
      let powers := Loop.forNat (0 : Nat) 8 powers (fun j st =>
          let powers := st
          let powers := powers.set i ((powers.getD i 0) * (powers.getD i 0))
          powers)
      powers) = [z, sqTimesG 8 z, sqTimesG 8 (sqTimesG 8 z), sqTimesG 8 (sqTimesG 8 (sqTimesG 8 z))] := by
  have step : ∀ (i : Nat) (l : List K), i < l.length →
      (let powers := l
       let powers := powers.set i ((powers.getD (i - (1 : Nat)) 0))
       let powers := Loop.forNat (0 : Nat) 8 powers (fun j st =>
          let powers := st
          let powers := powers.set i ((powers.getD i 0) * (powers.getD i 0))
          powers)
       powers) = l.set i (sqTimesG 8 (l.getD (i - 1) 0)) := by
    intro i l hi
    simp only
    rw [inner_sq 8 i _ (by simpa using hi), List.set_set]
    congr 2
    simp [List.getD_eq_getElem?_getD, hi]
  rw [forNat_1_4]
  rw [step 1 _ (by simp), step 2 _ (by simp), step 3 _ (by simp)]
  simp [List.replicate, List.getD_eq_getElem?_getD]

/-- **`invSqrtEqDyadic`, translated from the source, is the block-wise discrete-log algorithm of the
model** (over any field, any look-up table and any table of precomputed blocks): same flag, same new
value of `*z`; `*z` is left untouched when `false` is returned. -/
theorem invSqrt_generic (limb0 : K → Nat) (lut : Nat → Nat) (blocks : Nat → Nat → K) (z : K) :
    go_invSqrtEqDyadic limb0 lut blocks z =
      (match invSqrtG (go_NegDlog limb0 lut) blocks z with
       | none => (false, z)
       | some y => (true, y)) := by
  obtain ⟨c1, c2, c3, c4, _⟩ := consts
  unfold go_invSqrtEqDyadic invSqrtG
  simp only [c1, c2, c3, c4, powers_eq]
  simp only [forNat_1_4, forNat_0_4, forNat_0_1, forNat_0_2, forNat_0_3,
    go_GetPrecomputedRootOfUnity, and_1, and_255, mulBlocksG, Nat.shiftRight_zero]
  simp only [List.getD_eq_getElem?_getD, Nat.reduceSub, Nat.reduceAdd, Nat.reduceMul, List.getElem?_cons_succ,
    List.getElem?_cons_zero, Option.getD_some, Nat.shiftRight_zero, Nat.sub_zero]
  split <;> rfl

/-- **`SqrtPrecomp`, translated from the source**, over any field: zero maps to zero; otherwise the
candidate is multiplied by the inverse square root of the root of unity, `nil` when there is none -/
theorem sqrtPrecomp_generic (limb0 : K → Nat) (lut : Nat → Nat) (blocks : Nat → Nat → K) (powers : K → K × K) (x : K) :
    go_SqrtPrecomp limb0 lut blocks powers x =
      if x = 0 then some 0
      else match invSqrtG (go_NegDlog limb0 lut) blocks (powers x).2 with
        | none => none
        | some y => some ((powers x).1 * y) := by
  unfold go_SqrtPrecomp
  simp only [invSqrt_generic]
  split
  · rfl
  · cases invSqrtG (go_NegDlog limb0 lut) blocks (powers x).2 <;> rfl

end

theorem sqTimes_eq (n : Nat) (x : Fp) : sqTimesG n x = sqTimes n x := by
  induction n generalizing x with
  | zero => rfl
  | succ n ih => simp only [sqTimesG, sqTimes, ih]

theorem mulBlocks_eq (n off cnt j : Nat) (acc : Fp) :
    mulBlocksG precompBlock n off cnt j acc = mulBlocks n off cnt j acc := by
  induction cnt generalizing j acc with
  | zero => rfl
  | succ cnt ih => simp only [mulBlocksG, mulBlocks, ih]

theorem invSqrtG_eq (z : Fp) : invSqrtG negDlogSmall precompBlock z = invSqrtEqDyadic z := by
  unfold invSqrtG invSqrtEqDyadic sq8
  simp only [sqTimes_eq, mulBlocks_eq]

/-- **`invSqrtEqDyadic` (translated) = the model's `invSqrtEqDyadic`** -/
theorem invSqrt_eq (z : Fp) :
    go_invSqrtEqDyadic limb0P lutP precompBlock z =
      (match invSqrtEqDyadic z with
       | none => (false, z)
       | some y => (true, y)) := by
  have hnd : go_NegDlog limb0P lutP = negDlogSmall := funext negDlog_eq
  rw [invSqrt_generic, hnd, invSqrtG_eq]
  cases invSqrtEqDyadic z <;> with_reducible rfl

/-- what `sqrtAlg_ComputeRelevantPowers` delivers (the addition chain: `Tie.SqrtChain.chain_exponents`):
the candidate `v^((Q+1)/2)` and the root of unity `v^Q`, in the model's factorisation -/
def powersP (v : Fp) : Fp × Fp :=
  (v ^ ((Qodd - 1) / 2) * v, v ^ ((Qodd - 1) / 2) * v ^ ((Qodd - 1) / 2) * v)

theorem powersP_fst (v : Fp) : (powersP v).1 = v ^ ((Qodd - 1) / 2) * v := rfl
theorem powersP_snd (v : Fp) : (powersP v).2 = v ^ ((Qodd - 1) / 2) * v ^ ((Qodd - 1) / 2) * v := rfl

theorem fp_eq_zero_iff (v : Fp) : v = 0 ↔ v.val = 0 := by
  constructor
  · intro h; rw [h]; rfl
  · intro h
    cases v with
    | mk val lt => simp only at h; subst h; rfl

/-- **`SqrtPrecomp` (translated) = the model's `Fp.sqrtPrecomp`** — the function
`SqrtPre.sqrtPrecomp_spec` is about. -/
theorem sqrtPrecomp_eq (v : Fp) :
    go_SqrtPrecomp limb0P lutP precompBlock powersP v = Fp.sqrtPrecomp v := by
  have hnd : go_NegDlog limb0P lutP = negDlogSmall := funext negDlog_eq
  rw [sqrtPrecomp_generic, hnd]
  unfold Fp.sqrtPrecomp
  by_cases h : v = 0
  · rw [if_pos h, if_pos ((fp_eq_zero_iff v).1 h)]
  · rw [if_neg h, if_neg (mt (fp_eq_zero_iff v).2 h), invSqrtG_eq, powersP_fst, powersP_snd]
    -- the power is hidden before anything reduces: unfolding `powersP` in place makes the elaborator evaluate it
    generalize v ^ ((Qodd - 1) / 2) = A
    dsimp only
    generalize invSqrtEqDyadic (A * A * v) = o
    cases o <;> rfl

/-- the constants the translation depends on -/
theorem coverage : sqrtParam_TotalBits = 32 ∧ sqrtParam_Blocks * sqrtParam_BlockSize = 32 := by decide

/-- the table construction in `init()` — the dyadic roots by repeated squaring from the hard-coded `2^32`-th
root (with the `-1` check), the reconstruction root `roots[32 − 8]`, the blocks `blocks[i][j] = blocks[i][j−1]·roots[8i]`
from `blocks[i][0] = 1`, the look-up table `key(g₈^i) ↦ (−i) & 255` — is not translated; the model's `dyadicRoots`,
`precompBlock`, `dlogLUT` mirror exactly these statements (and `SqrtPre.G_primitive`, `C17.lut_keys_distinct`,
`C17.lut_values` are about them); any edit is a broken obligation. -/
theorem init_shape : Gen.SqrtFp.initBody = ["sqrtPrecomp_PrimitiveDyadicRoots = func() (ret [BaseField2Adicity + 1]feType_SquareRoot) { if _, err := ret[0].SetString(\"10238227357739495823651030575849232062558860180284477541189508159991286009131\"); err != nil { panic(err) } for i := 1; i <= BaseField2Adicity; i++ { ret[i].Square(&ret[i-1]) } x := big.NewInt(0) ret[BaseField2Adicity-1].BigInt(x) if ret[BaseField2Adicity-1].String() != \"-1\" { panic(\"something is wrong with the dyadic roots of unity\") } return }()", "sqrtPrecomp_ReconstructionDyadicRoot = sqrtPrecomp_PrimitiveDyadicRoots[BaseField2Adicity-sqrtParam_BlockSize]", "sqrtPrecomp_PrecomputedBlocks = func() (blocks [sqrtParam_Blocks][1 << sqrtParam_BlockSize]feType_SquareRoot) { for i := 0; i < sqrtParam_Blocks; i++ { blocks[i][0].SetOne() for j := 1; j < (1 << sqrtParam_BlockSize); j++ { blocks[i][j].Mul(&blocks[i][j-1], &sqrtPrecomp_PrimitiveDyadicRoots[i*sqrtParam_BlockSize]) } } return }()", "sqrtPrecomp_dlogLUT = func() (ret map[uint16]uint) { const LUTSize = 1 << sqrtParam_BlockSize ret = make(map[uint16]uint, LUTSize) var rootOfUnity feType_SquareRoot rootOfUnity.SetOne() for i := 0; i < LUTSize; i++ { const mask = LUTSize - 1 ret[uint16(rootOfUnity[0]&0xFFFF)] = uint((-i) & mask) rootOfUnity.Mul(&rootOfUnity, &sqrtPrecomp_ReconstructionDyadicRoot) } if len(ret) != LUTSize { panic(\"failed to store all appropriate roots of unity in a map\") } return }()"] := rfl

end GoIpa.Tie.SqrtFp
