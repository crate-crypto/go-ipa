/-
  Tie T1 for `banderwagon/element.go`: every function of the file is
  translated (`BatchNormalize` over a heap: `Tie/BatchNormalize.lean`; plus `computeY` / `GetPointFromX`) from the current source on every run (`go/cmd/extract/elements.go` →
  `Gen/Elements.lean`) over an environment `E : ElemEnv K S` of the external operations it calls;
  here each translated function is proved equal to the model function the property theorems of
  C06, C07, C08, C11, C19 are about:

    go_Bytes                    = Proj.encode                  (C07)
    go_Equal                    = Proj.equalE                  (C07)
    go_mapToBaseField           = Proj.mapToBase               (C11)
    go_MapToScalarField         = frOfLE ∘ encLE ∘ mapToBase   (C11)
    go_BatchMapToScalarField    = … of batchMapToBase          (C11, C19)
    go_ElementsToBytes          = batchEncode                  (C19)
    go_BatchToBytesUncompressed = batchEncodeUncompressed      (C19)
    go_BytesUncompressedTrusted = encBE x ++ encBE y           (C19)
    go_Normalize                = Proj.normalize (error iff Z = 0)   (C19)
    go_Set / go_Sub / go_ScalarMul / go_Add / …               (C08 wrapper logic)

  and, at the executable base field with the model's own `computeY`/`subgroupOk`
  (`realEnv`):

    go_setBytes / go_SetBytes / go_SetBytesUnsafe = decodeCompressed        (C06)
    go_SetBytesUncompressed                       = decodeUncompressed      (C06)
    go_subgroupCheck                              = subgroupOk              (C06)

  Assumptions (fields of the environment, external code): `FromProj` is `(X/Z, Y/Z)`,
  `fp.BatchInvert` is the zero-skipping Montgomery trick of the model (the repository's own
  `fr.BatchInvert` is translated and proved in `Tie/Loops.lean`), field encoders return 32 bytes.
-/
import GoIpa.Gen.Elements
import GoIpa.Model.Batch
import GoIpa.Model.Config
import GoIpa.Lemmas.LoopLemmas
import GoIpa.Lemmas.BatchInvert
import Mathlib.Algebra.Field.Basic
namespace GoIpa.Tie.Elements
open GoIpa GoIpa.Loop GoIpa.Gen.Elements

section generic
variable {K S : Type} [Field K] [DecidableEq K] [Zero S]
variable (E : ElemEnv K S)

theorem bytes_eq (hfp : ∀ p, E.fromProj p = p.toAff) (p : Proj K) :
    go_Bytes E p = Proj.encode E.lex E.encBE p := by
  unfold go_Bytes Proj.encode
  by_cases hz : p.Z = 1
  · simp only [hz, not_true_eq_false, ↓reduceIte]
    by_cases hl : E.lex p.Y = true <;> simp [hl]
  · simp only [hz, not_false_eq_true, ↓reduceIte, hfp]
    by_cases hl : E.lex p.toAff.y = true <;> simp [hl]

theorem equal_eq (p q : Proj K) : go_Equal E p q = Proj.equalE p q := by
  unfold go_Equal Proj.equalE
  by_cases h1 : p.X = 0 ∧ p.Y = 0
  · simp [h1]
  · by_cases h2 : q.X = 0 ∧ q.Y = 0
    · simp [h1, h2]
    · simp [h1, h2]

theorem mapToBaseField_eq (p : Proj K) : go_mapToBaseField E p = p.mapToBase := rfl

theorem mapToScalarField_eq (p : Proj K) (res : S) :
    go_MapToScalarField E p res = E.frOfLE (E.encLE p.mapToBase) := rfl

theorem set_eq (p p1 : Proj K) : go_Set E p p1 = p1 := rfl

theorem sub_eq (p p1 p2 : Proj K) : go_Sub E p p1 p2 = E.pAdd p1 (E.pNeg p2) := rfl

theorem add_eq (p p1 p2 : Proj K) : go_Add E p p1 p2 = E.pAdd p1 p2 := rfl
theorem double_eq (p p1 : Proj K) : go_Double E p p1 = E.pDouble p1 := rfl
theorem neg_eq (p p1 : Proj K) : go_Neg E p p1 = E.pNeg p1 := rfl
theorem addMixed_eq (p p1 : Proj K) (q : Aff K) : go_AddMixed E p p1 q = E.pMixedAdd p1 q := rfl
theorem setIdentity_eq (p : Proj K) : go_SetIdentity E p = (⟨0, 1, 1⟩ : Proj K) := rfl
theorem isOnCurve_eq (p : Proj K) : go_IsOnCurve E p = E.affOnCurve (E.fromProj p) := rfl

/-- the wrappers never read the old value of the receiver -/
theorem receiver_irrelevant (p p' p1 p2 : Proj K) (q : Aff K) (s : S) :
    go_Add E p p1 p2 = go_Add E p' p1 p2 ∧ go_Sub E p p1 p2 = go_Sub E p' p1 p2 ∧
    go_Double E p p1 = go_Double E p' p1 ∧ go_Neg E p p1 = go_Neg E p' p1 ∧
    go_AddMixed E p p1 q = go_AddMixed E p' p1 q ∧ go_Set E p p1 = go_Set E p' p1 ∧
    go_ScalarMul E p p1 s = go_ScalarMul E p' p1 s ∧ go_SetIdentity E p = go_SetIdentity E p' :=
  ⟨rfl, rfl, rfl, rfl, rfl, rfl, by unfold go_ScalarMul; split <;> rfl, rfl⟩

/-- `ScalarMul`: the identity class (both representatives, any `Z`) is mapped to the identity,
everything else goes to the library's scalar multiplication with the scalar's regular value -/
theorem scalarMul_eq (p p1 : Proj K) (s : S) :
    go_ScalarMul E p p1 s = if p1.X = 0 ∧ p1.Y ≠ 0 then (⟨0, 1, 1⟩ : Proj K) else E.pScalarMul p1 (E.valS s) := by
  unfold go_ScalarMul
  by_cases h : p1.X = 0 ∧ ¬ (p1.Y = 0)
  · rw [if_pos h, if_pos h]; rfl
  · rw [if_neg h, if_neg h]

theorem normalize_eq (hfp : ∀ p, E.fromProj p = p.toAff) (p : Proj K) :
    go_Normalize E p = if p.Z = 0 then none else some p.normalize := by
  unfold go_Normalize Proj.normalize
  by_cases h : p.Z = 0
  · simp [h]
  · simp [h, hfp, Proj.toAff]

/-! ### the batch serialisers -/

theorem map_eq_range_map {α β : Type} (f : α → β) (l : List α) (d : α) :
    l.map f = (List.range l.length).map (fun k => f (l.getD k d)) := by
  apply List.ext_getElem (by simp)
  intro j h1 h2
  simp only [List.length_map] at h1
  simp [List.getD_eq_getElem?_getD, h1]

/-- the `zs[i] = elements[i].inner.Z` loop -/
theorem collect_loop (ps : List (Proj K)) (f : Proj K → K) :
    (List.range ps.length).foldl (fun (st : List K) (k : Nat) => st.set k (f (ps.getD k ⟨0, 0, 0⟩)))
      (List.replicate ps.length (0 : K)) = ps.map f := by
  rw [foldl_fill ps.length (0 : K) _ _ List.length_replicate, map_eq_range_map f ps ⟨0, 0, 0⟩]

theorem elementsToBytes_eq (hbi : ∀ l, E.batchInvert l = batchInvert l) (ps : List (Proj K)) :
    go_ElementsToBytes E ps = batchEncode E.lex E.encBE ps := by
  unfold go_ElementsToBytes batchEncode
  simp only [forUp_zero, get_nat, set_nat, Int.toNat_natCast]
  rw [collect_loop ps (·.Z), hbi]
  rw [foldl_fill ps.length ([] : Bytes) _ _ List.length_replicate]
  rw [zipWith_eq_range_map _ ps (batchInvert (ps.map (·.Z))) ⟨0, 0, 0⟩ 0 (by rw [batchInvert_length, List.length_map])]
  apply List.map_congr_left
  intro k _
  by_cases hl : E.lex ((ps.getD k ⟨0, 0, 0⟩).Y * (batchInvert (ps.map (·.Z))).getD k 0) = true
  · rw [if_neg (not_not_intro hl), if_pos hl]
  · rw [if_pos hl, if_neg hl]

/-- two 32-byte halves copied into a zeroed 64-byte array -/
theorem copy_halves (x y : Bytes) (hx : x.length = 32) (hy : y.length = 32) (z : Bytes) (hz : z.length = 64) :
    Loop.copyAt (Loop.copyAt z 0 x) 32 y = x ++ y := by
  unfold Loop.copyAt
  simp only [Int.toNat_zero, List.take_zero, List.nil_append, Nat.sub_zero, Nat.zero_add]
  have h32 : (32 : Int).toNat = 32 := rfl
  rw [h32]
  have t1 : x.take z.length = x := List.take_of_length_le (by omega)
  rw [t1]
  have l1 : (x ++ z.drop x.length).length = 64 := by simp [hx, hz]
  rw [l1]
  have t2 : (x ++ z.drop x.length).take 32 = x := by
    rw [List.take_append_of_le_length (by omega), List.take_of_length_le (by omega)]
  have t3 : y.take (64 - 32) = y := List.take_of_length_le (by omega)
  have t4 : (x ++ z.drop x.length).drop (32 + y.length) = [] := by
    apply List.drop_of_length_le; omega
  rw [t2, t3, t4, List.append_nil]

theorem batchToBytesUncompressed_eq (hbi : ∀ l, E.batchInvert l = batchInvert l) (henc : ∀ v, (E.encBE v).length = 32)
    (ps : List (Proj K)) :
    go_BatchToBytesUncompressed E ps = batchEncodeUncompressed E.encBE ps := by
  unfold go_BatchToBytesUncompressed batchEncodeUncompressed
  simp only [forUp_zero, get_nat, set_nat, Int.toNat_natCast]
  rw [collect_loop ps (·.Z), hbi]
  have h64 : (64 : Int).toNat = 64 := rfl
  rw [h64]
  -- each iteration rewrites slot `i`, starting from the zeroed 64-byte array
  rw [foldl_set_map ([] : Bytes)
    (fun i old => Loop.copyAt (Loop.copyAt old 0 (E.encBE ((ps.getD i ⟨0, 0, 0⟩).X * (batchInvert (ps.map (·.Z))).getD i 0)))
      32 (E.encBE ((ps.getD i ⟨0, 0, 0⟩).Y * (batchInvert (ps.map (·.Z))).getD i 0)))
    _ _ ps.length List.length_replicate
    (fun l i hi hl => by rw [List.set_set, getD_set_self _ _ _ _ (hl ▸ hi)])]
  rw [zipWith_eq_range_map _ ps (batchInvert (ps.map (·.Z))) ⟨0, 0, 0⟩ 0 (by rw [batchInvert_length, List.length_map])]
  apply List.map_congr_left
  intro k hk
  rw [getD_replicate _ _ _ _ (List.mem_range.mp hk)]
  exact copy_halves _ _ (henc _) (henc _) _ List.length_replicate

theorem bytesUncompressedTrusted_eq (hfp : ∀ p, E.fromProj p = p.toAff) (henc : ∀ v, (E.encBE v).length = 32) (p : Proj K) :
    go_BytesUncompressedTrusted E p = E.encBE p.toAff.x ++ E.encBE p.toAff.y := by
  unfold go_BytesUncompressedTrusted
  simp only [hfp]
  exact copy_halves _ _ (henc _) (henc _) _ List.length_replicate

theorem batchMapToScalarField_eq (hbi : ∀ l, E.batchInvert l = batchInvert l) (result : List S) (ps : List (Proj K)) :
    go_BatchMapToScalarField E result ps =
      if result.length = ps.length then some ((batchMapToBase ps).map (fun v => E.frOfLE (E.encLE v))) else none := by
  unfold go_BatchMapToScalarField batchMapToBase
  by_cases hlen : result.length = ps.length
  · have h1 : ¬ (((result.length : Nat) : Int) ≠ ((ps.length : Nat) : Int)) := by omega
    rw [if_neg h1, if_pos hlen]
    simp only [forUp_zero, get_nat, set_nat, Int.toNat_natCast]
    rw [collect_loop ps (·.Y), hbi]
    rw [foldl_fill ps.length (0 : S) _ _ hlen]
    rw [zipWith_eq_range_map _ ps (batchInvert (ps.map (·.Y))) ⟨0, 0, 0⟩ 0 (by rw [batchInvert_length, List.length_map])]
    rw [List.map_map]
    rfl
  · have h1 : (((result.length : Nat) : Int) ≠ ((ps.length : Nat) : Int)) := by omega
    rw [if_pos h1, if_neg hlen]

/-- the batch map writes every slot: the result does not depend on what the caller's result
slots held before -/
theorem batchMap_result_irrelevant (result result' : List S) (ps : List (Proj K))
    (h : result.length = result'.length) (hbi : ∀ l, E.batchInvert l = batchInvert l) :
    go_BatchMapToScalarField E result ps = go_BatchMapToScalarField E result' ps := by
  rw [batchMapToScalarField_eq E hbi, batchMapToScalarField_eq E hbi, h]

end generic

/-! ### the decoders at the executable base field -/

section concrete

/-- the environment of the executable model: the model's own field encoders, `computeY`
(`GetPointFromX`), Legendre symbol, point formulas and scalar-field reduction -/
def realEnv (sqrt : Fp → Option Fp) : ElemEnv Fp Fr where
  a := bandersnatch.a
  d := bandersnatch.d
  lex := Fp.lexLargest
  legendre := Fp.legendre
  encBE := Zp.bytesBE
  encLE := Zp.bytesLE
  decCanon := fun b => if h : beNat b < P then some ⟨beNat b, h⟩ else none
  decReduce := fun b => Zp.ofNat P (beNat b)
  fromProj := Proj.toAff
  sqrt := sqrt
  batchInvert := batchInvert
  pAdd := Pt.add
  pDouble := Pt.double
  pNeg := Pt.neg
  pMixedAdd := fun p q => Pt.add p (Proj.ofAff q)
  pScalarMul := fun p n => Pt.nsmul n p
  affOnCurve := fun q => decide (q.onCurve bandersnatch)
  frOfLE := fun b => Zp.ofNat R (leNat b)
  valS := Zp.val

theorem zp_mul_comm {n : Nat} [NeZero n] (a b : Zp n) : a * b = b * a := by
  show Zp.ofNat n (a.val * b.val) = Zp.ofNat n (b.val * a.val)
  rw [Nat.mul_comm]

theorem zp_div_eq {n : Nat} [NeZero n] (a b : Zp n) : a / b = a * b⁻¹ := rfl

theorem legendre_range (v : Fp) : Fp.legendre v = 0 ∨ Fp.legendre v = 1 ∨ Fp.legendre v = -1 := by
  unfold Fp.legendre
  extract_lets l
  by_cases h0 : l.val = 0
  · left; rw [if_pos h0]
  · by_cases h1 : l.val = 1
    · right; left; rw [if_neg h0, if_pos h1]
    · right; right; rw [if_neg h0, if_neg h1]

-- the Euler-criterion power must not be unfolded by the unifier (a 255-step square-and-multiply)
attribute [local irreducible] Fp.legendre

theorem legendre_le_zero_iff (v : Fp) : Fp.legendre v ≤ 0 ↔ ¬ (Fp.legendre v = 1) := by
  rcases legendre_range v with h | h | h <;> omega

theorem subgroupCheck_gen {K S : Type} [Zero K] [One K] [Add K] [Sub K] [Mul K] [Neg K] [Inv K] [DecidableEq K] [Zero S]
    (E : ElemEnv K S) (x : K) :
    go_subgroupCheck E x = if E.legendre (1 - x * x * E.a) ≤ 0 then none else some () := rfl

/-- **`computeY` (bandersnatch.go), translated from the source, is the model's `computeY`**:
radicand `(a x² − 1)/(d x² − 1)`, the square-root routine, the choice of the requested root -/
theorem computeY_eq (sqrt : Fp → Option Fp) (x : Fp) (l : Bool) :
    go_computeY (realEnv sqrt) x l = computeY sqrt x l := by
  unfold go_computeY computeY
  have ha : x * x * bandersnatch.a = bandersnatch.a * (x * x) := zp_mul_comm _ _
  have hd : x * x * bandersnatch.d = bandersnatch.d * (x * x) := zp_mul_comm _ _
  simp only [realEnv, ha, hd, zp_div_eq]
  cases sqrt ((bandersnatch.a * (x * x) - 1) * (bandersnatch.d * (x * x) - 1)⁻¹) with
  | none => rfl
  | some y =>
    simp only
    by_cases h : l = Fp.lexLargest y
    · subst h; simp
    · have h' : ¬ Fp.lexLargest y = l := fun h' => h h'.symm
      simp [h, h']

/-- `GetPointFromX` = the model's `computeY` paired with `x` -/
theorem getPointFromX_eq (sqrt : Fp → Option Fp) (x : Fp) (l : Bool) :
    go_GetPointFromX (realEnv sqrt) x l = (computeY sqrt x l).map (fun y => (⟨x, y⟩ : Aff Fp)) := by
  unfold go_GetPointFromX
  rw [computeY_eq]
  cases computeY sqrt x l <;> rfl

theorem sgc_aux (L : Int) (hr : L = 0 ∨ L = 1 ∨ L = -1) [d : Decidable (L ≤ 0)] :
    (if L ≤ 0 then (none : Option Unit) else some ()) = if (L == 1) = true then some () else none := by
  rcases hr with h | h | h <;> subst h
  · rw [if_pos (by omega)]; rfl
  · rw [if_neg (by omega)]; rfl
  · rw [if_pos (by omega)]; rfl

/-- `subgroupCheck` is the model's `subgroupOk` -/
theorem subgroupCheck_eq (sqrt : Fp → Option Fp) (x : Fp) :
    go_subgroupCheck (realEnv sqrt) x = if subgroupOk x then some () else none :=
  (subgroupCheck_gen (realEnv sqrt) x).trans
    ((sgc_aux _ (legendre_range (1 - x * x * bandersnatch.a))).trans
      (congrArg (fun t => if (Fp.legendre (1 - t) == 1) = true then some () else none)
        (zp_mul_comm (x * x) bandersnatch.a)))

/-- **`setBytes` (behind `SetBytes` and `SetBytesUnsafe`), translated from the source, is the
model's `decodeCompressed`** — same acceptance set, same returned coordinates -/
theorem setBytes_eq (sqrt : Fp → Option Fp) (p : Pt) (buf : Bytes) (trusted : Bool) :
    go_setBytes (realEnv sqrt) p buf trusted = (decodeCompressed sqrt buf trusted).toOption := by
  unfold go_setBytes decodeCompressed
  by_cases hl : buf.length = 32
  · have t1 : ¬ (((buf.length : Nat) : Int) ≠ 32) := by omega
    have t2 : ¬ (buf.length ≠ 32) := not_not_intro hl
    rw [if_neg t1, if_neg t2]
    simp only [subgroupCheck_eq, getPointFromX_eq]
    by_cases hc : beNat buf < P
    · simp only [realEnv, hc, ↓reduceDIte]
      cases hy : computeY sqrt ⟨beNat buf, hc⟩ true with
      | none => simp [Except.toOption]
      | some y =>
        simp only [Option.map_some]
        cases trusted <;> by_cases hs : subgroupOk ⟨beNat buf, hc⟩ = true <;> simp [hs, Except.toOption]
    · simp only [realEnv, hc, ↓reduceDIte]
      simp [Except.toOption]
  · have t1 : (((buf.length : Nat) : Int) ≠ 32) := by omega
    rw [if_pos t1, if_pos hl]
    rfl

theorem SetBytes_eq (sqrt : Fp → Option Fp) (p : Pt) (buf : Bytes) :
    go_SetBytes (realEnv sqrt) p buf = (decodeCompressed sqrt buf false).toOption := setBytes_eq sqrt p buf false

theorem SetBytesUnsafe_eq (sqrt : Fp → Option Fp) (p : Pt) (buf : Bytes) :
    go_SetBytesUnsafe (realEnv sqrt) p buf = (decodeCompressed sqrt buf true).toOption := setBytes_eq sqrt p buf true

/-- **`SetBytesUncompressed`, translated from the source, is the model's `decodeUncompressed`** -/
theorem SetBytesUncompressed_eq (sqrt : Fp → Option Fp) (p : Pt) (buf : Bytes) (trusted : Bool) :
    go_SetBytesUncompressed (realEnv sqrt) p buf trusted = (decodeUncompressed sqrt buf trusted).toOption := by
  unfold go_SetBytesUncompressed decodeUncompressed
  by_cases hl : buf.length = 64
  · have t1 : ¬ (((buf.length : Nat) : Int) ≠ 64) := by omega
    have t2 : ¬ (buf.length ≠ 64) := not_not_intro hl
    rw [if_neg t1, if_neg t2]
    have h32 : (32 : Int).toNat = 32 := rfl
    simp only [subgroupCheck_eq, getPointFromX_eq, Loop.take, Loop.drop, h32]
    cases trusted with
    | true => simp [realEnv, Except.toOption]
    | false =>
      simp only [Bool.false_eq_true, not_false_eq_true, ↓reduceIte]
      by_cases hc : beNat (buf.take 32) < P
      · simp only [realEnv, hc, ↓reduceDIte]
        cases hy : computeY sqrt ⟨beNat (buf.take 32), hc⟩ true with
        | none => simp [Except.toOption]
        | some y =>
          simp only [Option.map_some]
          by_cases hyb : y.bytesBE = buf.drop 32
          · by_cases hs : subgroupOk ⟨beNat (buf.take 32), hc⟩ = true <;> simp [hyb, hs, Except.toOption]
          · simp [hyb, Except.toOption]
      · simp only [realEnv, hc, ↓reduceDIte]
        simp [Except.toOption]
  · have t1 : (((buf.length : Nat) : Int) ≠ 64) := by omega
    rw [if_pos t1, if_pos hl]
    rfl

/-- `MapToScalarField` at the executable types is the model's `Pt.mapToScalar` -/
theorem mapToScalarField_real (sqrt : Fp → Option Fp) (p : Pt) (res : Fr) :
    go_MapToScalarField (realEnv sqrt) p res = Pt.mapToScalar p := rfl

theorem bytes_real (sqrt : Fp → Option Fp) (p : Pt) : go_Bytes (realEnv sqrt) p = Pt.bytes p := by
  unfold go_Bytes Pt.bytes Proj.encode
  by_cases hz : p.Z = 1
  · simp only [realEnv, hz, not_true_eq_false, ↓reduceIte]
    by_cases hl : Fp.lexLargest p.Y = true <;> simp [hl]
  · simp only [realEnv, hz, not_false_eq_true, ↓reduceIte]
    by_cases hl : Fp.lexLargest p.toAff.y = true <;> simp [hl]

theorem equal_real (sqrt : Fp → Option Fp) (p q : Pt) : go_Equal (realEnv sqrt) p q = Pt.equal p q := by
  unfold go_Equal Pt.equal Proj.equalE
  by_cases h1 : p.X = 0 ∧ p.Y = 0
  · simp [h1]
  · by_cases h2 : q.X = 0 ∧ q.Y = 0
    · simp [h1, h2]
    · simp [h1, h2]

end concrete

/-- what the translator covered: every function of `element.go` (and `computeY`, `GetPointFromX`) -/
theorem coverage : Gen.Elements.notTranslated = [] ∧ Gen.Elements.translated.length = 26 := ⟨rfl, rfl⟩

end GoIpa.Tie.Elements
