/-
  Tie T1 for the proof (de)serialisation code: `common.ReadPoint`, `common.ReadScalar`,
  `IPAProof.Read` / `Write`, `MultiProof.Read` / `Write`, translated from the current source on
  every run (`go/cmd/extract/serde.go` → `Gen/Serde.lean`) over the reader / writer state machines
  of `Model/Serde.lean`, are the model functions the C10 theorems are about
  (`readPoint`, `readScalar`, `readPoints`, `ipaRead`, `mpRead`; `writeChunks` of
  `MultiProof.chunks`), with the model's own decoders and encoders as environment.
-/
import GoIpa.Gen.Serde
import GoIpa.Lemmas.LoopLemmas
namespace GoIpa.Tie.Serde
open GoIpa GoIpa.Loop

/-- the environment of the executable model -/
def realEnv (sqrt : Fp → Option Fp) : SerdeEnv Pt Fr where
  decPoint := fun b => (decodeCompressed sqrt b).toOption
  decScalar := Fr.setBytesLECanonical
  encPoint := Pt.bytes
  encScalar := Zp.bytesLE
  zeroP := Pt.zero

/-- success value and reader of a model result; `none` for any error -/
def okOf {ε α : Type} (x : Except ε α × Reader) : Option (α × Reader) :=
  match x with
  | (.ok a, r) => some (a, r)
  | (.error _, _) => none

theorem readPoint_eq (sqrt : Fp → Option Fp) (r : Reader) :
    Gen.Serde.readPoint (realEnv sqrt) r = okOf (readPoint sqrt r) := by
  unfold Gen.Serde.readPoint readPoint okOf
  rcases h : r.full 32 with ⟨res, r'⟩
  cases res with
  | error e => rfl
  | ok b =>
    simp only [realEnv]
    cases hd : decodeCompressed sqrt b with
    | error e => simp [Except.toOption]
    | ok p => simp [Except.toOption]

theorem readScalar_eq (sqrt : Fp → Option Fp) (r : Reader) :
    Gen.Serde.readScalar (realEnv sqrt) r = okOf (readScalar r) := by
  unfold Gen.Serde.readScalar readScalar okOf
  rcases h : r.full 32 with ⟨res, r'⟩
  cases res with
  | error e => rfl
  | ok b =>
    simp only [realEnv]
    cases hd : Fr.setBytesLECanonical b with
    | none => simp
    | some s => simp

/-! ### the loop that reads `n` points -/

/-- one iteration of the reading loop, on the optional state -/
def readStep (sqrt : Fp → Option Fp) (o : Option (List Pt × Reader)) : Option (List Pt × Reader) :=
  match o with
  | none => none
  | some (L, r) =>
    match Gen.Serde.readPoint (realEnv sqrt) r with
    | none => none
    | some (p, r) => some (L ++ [p], r)

theorem readStep_some (sqrt : Fp → Option Fp) (L : List Pt) (r : Reader) :
    readStep sqrt (some (L, r)) = (match readPoint sqrt r with
      | (.ok p, r') => some (L ++ [p], r')
      | (.error _, _) => none) := by
  show (match Gen.Serde.readPoint (realEnv sqrt) r with
    | none => none
    | some (p, r) => some (L ++ [p], r)) = _
  rw [readPoint_eq]
  unfold okOf
  rcases readPoint sqrt r with ⟨res, r1⟩
  cases res <;> rfl

theorem readStep_iter_none (sqrt : Fp → Option Fp) (n : Nat) :
    (List.range n).foldl (fun o (_ : Nat) => readStep sqrt o) none = none := by
  induction n with
  | zero => rfl
  | succ n ih => rw [List.range_succ, List.foldl_append, ih]; rfl

theorem readLoop_eq (sqrt : Fp → Option Fp) : ∀ (n : Nat) (L0 : List Pt) (r0 : Reader),
    (List.range n).foldl (fun o (_ : Nat) => readStep sqrt o) (some (L0, r0))
      = (match readPoints sqrt n r0 with
         | (.ok ps, r') => some (L0 ++ ps, r')
         | (.error _, _) => none) := by
  intro n
  induction n with
  | zero => intro L0 r0; simp [readPoints]
  | succ n ih =>
    intro L0 r0
    rw [List.range_succ_eq_map, List.foldl_cons, List.foldl_map]
    show (List.range n).foldl (fun o (_ : Nat) => readStep sqrt o) (readStep sqrt (some (L0, r0))) = _
    rw [readStep_some]
    unfold readPoints
    rcases h : readPoint sqrt r0 with ⟨res, r1⟩
    cases res with
    | error e => simp only; exact readStep_iter_none sqrt n
    | ok p =>
      simp only
      rw [ih (L0 ++ [p]) r1]
      rcases h2 : readPoints sqrt n r1 with ⟨res2, r2⟩
      cases res2 with
      | error e => rfl
      | ok ps => simp

/-- a reading loop whose body is `readStep` is the fold of `readStep` -/
theorem forUpOpt_read (sqrt : Fp → Option Fp) (n : Nat) (L0 : List Pt) (r0 : Reader)
    (body : Int → List Pt × Reader → Option (List Pt × Reader))
    (hbody : ∀ i st, body i st = readStep sqrt (some st)) :
    Loop.forUpOpt (0 : Int) ((n : Nat) : Int) (L0, r0) body
      = (List.range n).foldl (fun o (_ : Nat) => readStep sqrt o) (some (L0, r0)) := by
  unfold Loop.forUpOpt
  rw [forUp_zero]
  apply List.foldl_ext
  intro o k _
  cases o with
  | none => rfl
  | some st => exact hbody _ st

/-- an `IPAProof` result of the model in the shape the translation returns -/
def ofIpa (x : Except RdErr (IpaProof Fr Pt) × Reader) : Option ((List Pt × List Pt × Fr) × Reader) :=
  match x with
  | (.ok p, r) => some ((p.L, p.R, p.a), r)
  | (.error _, _) => none

/-- **`IPAProof.Read`, translated from the source, is the model's `ipaRead`**: 8 points, 8 points,
one canonical scalar, every error propagated -/
theorem ipaRead_eq (sqrt : Fp → Option Fp) (r : Reader) :
    Gen.Serde.ipaRead (realEnv sqrt) r = ofIpa (ipaRead sqrt r) := by
  unfold Gen.Serde.ipaRead ipaRead ofIpa
  have h8 : (8 : Int) = ((8 : Nat) : Int) := rfl
  simp only [h8]
  rw [forUpOpt_read sqrt 8 [] r _ (by
      intro i st
      obtain ⟨L', r'⟩ := st
      unfold readStep
      simp only
      cases Gen.Serde.readPoint (realEnv sqrt) r' with
      | none => rfl
      | some pr => cases pr; rfl), readLoop_eq]
  rcases h1 : readPoints sqrt 8 r with ⟨res1, r1⟩
  cases res1 with
  | error e => rfl
  | ok L =>
    simp only [List.nil_append]
    rw [forUpOpt_read sqrt 8 [] r1 _ (by
      intro i st
      obtain ⟨L', r'⟩ := st
      unfold readStep
      simp only
      cases Gen.Serde.readPoint (realEnv sqrt) r' with
      | none => rfl
      | some pr => cases pr; rfl), readLoop_eq]
    rcases h2 : readPoints sqrt 8 r1 with ⟨res2, r2⟩
    cases res2 with
    | error e => rfl
    | ok R =>
      simp only [readScalar_eq]
      unfold okOf
      rcases h3 : readScalar r2 with ⟨res3, r3⟩
      cases res3 <;> rfl

/-- **`MultiProof.Read`, translated from the source, is the model's `mpRead`**: `D`, the IPA
proof, then the end-of-stream probe that accepts only a clean EOF -/
theorem mpRead_eq (sqrt : Fp → Option Fp) (r : Reader) :
    (Gen.Serde.mpRead (realEnv sqrt) r).map (·.1)
      = (mpRead sqrt r).toOption.map (fun p => (p.D, (p.ipa.L, p.ipa.R, p.ipa.a))) := by
  unfold Gen.Serde.mpRead mpRead
  rw [readPoint_eq]
  unfold okOf
  rcases h1 : readPoint sqrt r with ⟨res1, r1⟩
  cases res1 with
  | error e => rfl
  | ok D =>
    simp only [ipaRead_eq]
    unfold ofIpa
    rcases h2 : ipaRead sqrt r1 with ⟨res2, r2⟩
    cases res2 with
    | error e => rfl
    | ok ip =>
      simp only
      rcases h3 : r2.full 1 with ⟨res3, r3⟩
      cases res3 with
      | ok b => rfl
      | error e => cases e <;> rfl

/-! ### the writers -/

/-- write a list of chunks, one `Write` call each, stopping at the first failure -/
def writeAll (w : Writer) (chunks : List Bytes) : Option Writer :=
  chunks.foldl (fun o c => match o with | none => none | some w => w.write c) (some w)

theorem writeAll_none (chunks : List Bytes) :
    chunks.foldl (fun (o : Option Writer) c => match o with | none => none | some w => w.write c) none = none := by
  induction chunks with
  | nil => rfl
  | cons c cs ih => exact ih

theorem writeAll_cons (w : Writer) (c : Bytes) (cs : List Bytes) :
    writeAll w (c :: cs) = (match w.write c with | none => none | some w' => writeAll w' cs) := by
  unfold writeAll
  rw [List.foldl_cons]
  show cs.foldl (fun (o : Option Writer) c => match o with | none => none | some w => w.write c) (w.write c) = _
  cases w.write c with
  | none => exact writeAll_none cs
  | some w' => rfl

theorem writeAll_append (w : Writer) (a b : List Bytes) :
    writeAll w (a ++ b) = (match writeAll w a with | none => none | some w' => writeAll w' b) := by
  unfold writeAll
  rw [List.foldl_append]
  cases h : a.foldl (fun (o : Option Writer) c => match o with | none => none | some w => w.write c) (some w) with
  | none => exact writeAll_none b
  | some w' => rfl

/-- what a run of `Write` calls does: it fails iff the failing call number falls into the run -/
theorem writeAll_spec : ∀ (chunks : List Bytes) (out : Bytes) (calls : Nat) (fa : Option Nat),
    writeAll ⟨out, calls, fa⟩ chunks =
      (match fa with
       | some j => if calls ≤ j ∧ j < calls + chunks.length then none
                   else some ⟨out ++ chunks.flatten, calls + chunks.length, fa⟩
       | none => some ⟨out ++ chunks.flatten, calls + chunks.length, fa⟩) := by
  intro chunks
  induction chunks with
  | nil =>
    intro out calls fa
    cases fa with
    | none => simp [writeAll]
    | some j =>
      have : ¬ (calls ≤ j ∧ j < calls + 0) := by omega
      simp [writeAll]
  | cons c cs ih =>
    intro out calls fa
    rw [writeAll_cons]
    unfold Writer.write
    cases fa with
    | none =>
      simp only [reduceCtorEq, ↓reduceIte]
      rw [ih]
      simp [List.length_cons, Nat.add_assoc, Nat.add_comm 1]
    | some j =>
      simp only [Option.some.injEq]
      by_cases hj : j = calls
      · subst hj
        have h2 : j ≤ j ∧ j < j + (c :: cs).length := by simp
        rw [if_pos rfl, if_pos h2]
      · rw [if_neg hj]
        simp only
        rw [ih]
        simp only [List.length_cons, List.flatten_cons, List.append_assoc]
        by_cases hr : calls + 1 ≤ j ∧ j < calls + 1 + cs.length
        · have h2 : calls ≤ j ∧ j < calls + (cs.length + 1) := by omega
          rw [if_pos hr, if_pos h2]
        · have h2 : ¬ (calls ≤ j ∧ j < calls + (cs.length + 1)) := by omega
          rw [if_neg hr, if_neg h2]
          simp [Nat.add_assoc, Nat.add_comm 1]

/-- the translated loop over a list of points writes their encodings in order -/
theorem forUpOpt_write (E : SerdeEnv Pt Fr) (L : List Pt) (w : Writer) :
    Loop.forUpOpt (0 : Int) (((L.length : Nat)) : Int) w (fun (i : Int) (w : Writer) =>
        Writer.write w (E.encPoint (Loop.get L i E.zeroP)))
      = writeAll w (L.map E.encPoint) := by
  unfold Loop.forUpOpt writeAll
  rw [forUp_zero, List.foldl_map, ← foldl_getD _ E.zeroP L]
  apply List.foldl_ext
  intro o k _
  cases o with
  | none => rfl
  | some w' => simp only [get_nat]

/-- **`MultiProof.Write` (with `IPAProof.Write`), translated from the source, issues exactly the
`Write` calls of the model's chunk list** — `D`, the eight `L`, the eight `R`, the scalar — and
fails iff the writer fails at one of them -/
theorem mpWrite_eq (sqrt : Fp → Option Fp) (p : MultiProof Fr Pt) (failAt : Option Nat) :
    (Gen.Serde.mpWrite (realEnv sqrt) p.D (p.ipa.L, p.ipa.R, p.ipa.a) ⟨[], 0, failAt⟩).map (·.out)
      = (writeChunks (MultiProof.chunks p) failAt).toOption := by
  have hnil : ∀ w : Writer, writeAll w [] = some w := fun w => rfl
  have hall : Gen.Serde.mpWrite (realEnv sqrt) p.D (p.ipa.L, p.ipa.R, p.ipa.a) ⟨[], 0, failAt⟩
      = writeAll ⟨[], 0, failAt⟩ (MultiProof.chunks p) := by
    unfold Gen.Serde.mpWrite Gen.Serde.ipaWrite MultiProof.chunks
    simp only [forUpOpt_write]
    rw [writeAll_append, writeAll_append, writeAll_append]
    simp only [writeAll_cons, hnil, realEnv]
    cases (⟨[], 0, failAt⟩ : Writer).write (Pt.bytes p.D) with
    | none => rfl
    | some w1 =>
      simp only
      cases writeAll w1 (p.ipa.L.map Pt.bytes) with
      | none => rfl
      | some w2 =>
        simp only
        cases writeAll w2 (p.ipa.R.map Pt.bytes) with
        | none => rfl
        | some w3 =>
          simp only
          cases w3.write (Zp.bytesLE p.ipa.a) with
          | none => rfl
          | some w4 => rfl
  rw [hall, writeAll_spec]
  simp only [Nat.zero_add, List.nil_append, Nat.zero_le, true_and]
  unfold writeChunks
  cases failAt with
  | none => simp [Except.toOption]
  | some j =>
    by_cases hj : j < (MultiProof.chunks p).length
    · simp [hj, Except.toOption]
    · simp [hj, Except.toOption]

end GoIpa.Tie.Serde
