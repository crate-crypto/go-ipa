/-
  Tie T1 for the hand-crafted addition chain of `sqrtAlg_ComputeRelevantPowers`
  (`bandersnatch/fp/sqrt.go`): the chain, extracted as data on every run, raises `z` to
  `(Q−1)/2` (`acc`), `Q` (`rootOfUnity`) and `(Q+1)/2` (`squareRootCandidate`), where
  `p − 1 = Q·2^32`, in every commutative monoid.
-/
import Mathlib.Algebra.Group.Basic
import Mathlib.Algebra.Group.Defs
import Mathlib.Tactic.Ring
import GoIpa.Gen.Formulas
import GoIpa.Model.Sqrt
namespace GoIpa.Tie.SqrtChain
open GoIpa

abbrev Op := String × String × String × String × Nat

/-- environment: variable name ↦ value, later bindings first -/
def lookup {α : Type} (d : α) (env : List (String × α)) (x : String) : α :=
  match env.find? (·.1 == x) with
  | some e => e.2
  | none => d

/-- one step on exponents: squaring doubles, multiplying adds, `SquareEqNTimes` multiplies by `2^n` -/
def stepE (env : List (String × Nat)) (op : Op) : List (String × Nat) :=
  if op.1 == "sq" then (op.2.1, 2 * lookup 0 env op.2.2.1) :: env
  else if op.1 == "mul" then (op.2.1, lookup 0 env op.2.2.1 + lookup 0 env op.2.2.2.1) :: env
  else if op.1 == "sqn" then (op.2.1, 2 ^ op.2.2.2.2 * lookup 0 env op.2.1) :: env
  else env

section
variable {M : Type} [CommMonoid M]

def sqN (n : Nat) (x : M) : M := x ^ (2 ^ n)

/-- the same step on values -/
def stepM (env : List (String × M)) (op : Op) : List (String × M) :=
  if op.1 == "sq" then (op.2.1, lookup 1 env op.2.2.1 * lookup 1 env op.2.2.1) :: env
  else if op.1 == "mul" then (op.2.1, lookup 1 env op.2.2.1 * lookup 1 env op.2.2.2.1) :: env
  else if op.1 == "sqn" then (op.2.1, sqN op.2.2.2.2 (lookup 1 env op.2.1)) :: env
  else env

/-- values are `z` to the tracked exponents -/
def Agree (z : M) (envM : List (String × M)) (envE : List (String × Nat)) : Prop :=
  ∀ x, lookup 1 envM x = z ^ lookup 0 envE x

theorem lookup_cons {α : Type} (d : α) (env : List (String × α)) (k x : String) (v : α) :
    lookup d ((k, v) :: env) x = if k == x then v else lookup d env x := by
  unfold lookup
  simp only [List.find?_cons]
  by_cases h : (k == x) = true
  · simp [h]
  · simp [h]

theorem step_agree (z : M) (envM : List (String × M)) (envE : List (String × Nat)) (op : Op)
    (h : Agree z envM envE) : Agree z (stepM envM op) (stepE envE op) := by
  intro x
  unfold stepM stepE
  by_cases h1 : (op.1 == "sq") = true
  · simp only [h1, ↓reduceIte, lookup_cons]
    by_cases hx : (op.2.1 == x) = true
    · simp only [hx, ↓reduceIte, h op.2.2.1]; rw [← pow_add]; congr 1; omega
    · simp only [hx, Bool.false_eq_true, ↓reduceIte]; exact h x
  · by_cases h2 : (op.1 == "mul") = true
    · simp only [h1, h2, Bool.false_eq_true, ↓reduceIte, lookup_cons]
      by_cases hx : (op.2.1 == x) = true
      · simp only [hx, ↓reduceIte, h op.2.2.1, h op.2.2.2.1]; rw [← pow_add]
      · simp only [hx, Bool.false_eq_true, ↓reduceIte]; exact h x
    · by_cases h3 : (op.1 == "sqn") = true
      · simp only [h1, h2, h3, Bool.false_eq_true, ↓reduceIte, lookup_cons]
        by_cases hx : (op.2.1 == x) = true
        · simp only [hx, ↓reduceIte, sqN, h op.2.1]; rw [← pow_mul, Nat.mul_comm]
        · simp only [hx, Bool.false_eq_true, ↓reduceIte]; exact h x
      · simp only [h1, h2, h3, Bool.false_eq_true, ↓reduceIte]; exact h x

/-- **Soundness of the exponent bookkeeping**: running the chain on values gives `z` to the
exponents obtained by running it on exponents -/
theorem chain_agree (z : M) (chain : List Op) :
    Agree z (chain.foldl stepM [("z", z)]) (chain.foldl stepE [("z", 1)]) := by
  have base : Agree z [("z", z)] [("z", 1)] := by
    intro x
    rw [lookup_cons, lookup_cons]
    by_cases hx : ("z" == x) = true
    · simp [hx]
    · simp [hx, lookup]
  generalize ([("z", z)] : List (String × M)) = envM at *
  generalize ([("z", 1)] : List (String × Nat)) = envE at *
  induction chain generalizing envM envE with
  | nil => exact base
  | cons op chain ih => exact ih _ _ (step_agree z envM envE op base)
end

/-- the exponents the extracted chain ends with -/
def finalExps : List (String × Nat) := Gen.sqrtChain.foldl stepE [("z", 1)]

/-- **The addition chain of the current source computes the three powers the square-root
algorithm needs** (`Q` = the odd part of `p − 1`). -/
theorem chain_exponents :
    lookup 0 finalExps "acc" = (Qodd - 1) / 2 ∧ lookup 0 finalExps "rootOfUnity" = Qodd ∧
    lookup 0 finalExps "squareRootCandidate" = (Qodd + 1) / 2 := by decide +kernel

/-- the helper repeats a squaring `n` times -/
theorem helper_shape : Gen.sqrtChainHelper =
    "func(z *feType_SquareRoot, n int) { for i := 0; i < n; i++ { z.Square(z) } }" := rfl

end GoIpa.Tie.SqrtChain
