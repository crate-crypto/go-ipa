/-
  Tie T1 for the inner-product argument itself: `CheckIPAProof`, `generateChallenges`, `commit`
  (and `CreateIPAProof`), translated statement by statement from the current source of
  `ipa/verifier.go`, `ipa/prover.go`, `ipa/config.go` (`Gen/Loops.lean`), are the model's
  `ipaVerify`, `genChallenges` (and `ipaProve`) — the objects of C02.ipaVerify_eq_spec and
  C04.ipa_complete.

  What the translation abstracts (parameters of the translated functions):
    * `multiScalar` — `ipa.MultiScalar`, i.e. `banderwagon.MultiExp`; assumed here to return
      `Σ sᵢ•Pᵢ` for equally long inputs and an error otherwise (`MsOk`; the MSM engines are C09/C05);
    * `bvec` — `computeBVector` (the `big.Int` comparison with 255 is a regenerated fact of
      `Tie.Consts`, its two branches are `Tie.Loops.baryCoeffs_eq_field` and a unit vector);
    * `enc` — encoders, hash-to-field and `Element.Equal`.
  An error return of the Go code is `none` (the transcript state after an error is not compared).
-/
import GoIpa.Tie.Loops
import GoIpa.Model.Multiproof
import GoIpa.Props.C02Mp
import Mathlib.Algebra.Module.Defs
import Mathlib.Algebra.Module.Basic
import Mathlib.Tactic.Abel
set_option linter.unusedSectionVars false
namespace GoIpa.Tie.Protocol
open GoIpa GoIpa.Loop GoIpa.Tie.Loops

/-! ### list helpers -/

theorem zipIdx_eq_range_map {α : Type} (l : List α) (d : α) :
    List.zipIdx l = (List.range l.length).map (fun j => (l.getD j d, j)) := by
  apply List.ext_getElem (by simp)
  intro j h1 h2
  simp only [List.length_zipIdx] at h1
  simp [List.getD_eq_getElem?_getD, h1]

theorem zip4_eq_range_map {α β γ δ : Type} (a : List α) (b : List β) (c : List γ) (e : List δ)
    (da : α) (db : β) (dc : γ) (de : δ) (n : Nat) (ha : a.length = n) (hb : b.length = n) (hc : c.length = n)
    (he : e.length = n) :
    List.zip a (List.zip b (List.zip c e))
      = (List.range n).map (fun k => (a.getD k da, b.getD k db, c.getD k dc, e.getD k de)) := by
  apply List.ext_getElem (by simp [ha, hb, hc, he])
  intro j h1 h2
  simp only [List.length_zip, ha, hb, hc, he, Nat.min_self] at h1
  simp [List.getD_eq_getElem?_getD, ha ▸ h1, hb ▸ h1, hc ▸ h1, he ▸ h1]

/-- a fold over four parallel slices is the index loop over them -/
theorem foldl_zip4 {α β γ δ σ : Type} (g : σ → α × β × γ × δ → σ) (a : List α) (b : List β) (c : List γ) (e : List δ)
    (da : α) (db : β) (dc : γ) (de : δ) (n : Nat) (ha : a.length = n) (hb : b.length = n) (hc : c.length = n)
    (he : e.length = n) (init : σ) :
    (List.zip a (List.zip b (List.zip c e))).foldl g init
      = (List.range n).foldl (fun st k => g st (a.getD k da, b.getD k db, c.getD k dc, e.getD k de)) init := by
  rw [zip4_eq_range_map a b c e da db dc de n ha hb hc he, List.foldl_map]

variable {K G : Type} [Field K] [DecidableEq K] [AddCommGroup G] [Module K G]
variable (enc : Enc K G)

/-- the assumption on `ipa.MultiScalar` -/
def MsOk (ms : List G → List K → Option G) : Prop :=
  ∀ ps ss, ms ps ss = if ps.length = ss.length then some (msm ps ss) else none

/-! ### the labels -/

theorem labels_eq : Gen.Loops.labelDomainSep = Label.ipa ∧ Gen.Loops.labelC = Label.C ∧
    Gen.Loops.labelInputPoint = Label.inputPoint ∧ Gen.Loops.labelOutputPoint = Label.outputPoint ∧
    Gen.Loops.labelW = Label.w ∧ Gen.Loops.labelL = Label.L ∧ Gen.Loops.labelR = Label.R ∧
    Gen.Loops.labelX = Label.x := ⟨rfl, rfl, rfl, rfl, rfl, rfl, rfl, rfl⟩

/-! ### `commit` -/

theorem commit_eq (bvec : K → List K) (ms : List G → List K → Option G) (hms : MsOk ms) (ps : List G) (ss : List K) :
    Gen.Loops.commit enc bvec ms ps ss = if ps.length = ss.length then some (msm ps ss) else none := by
  unfold Gen.Loops.commit
  by_cases h : ps.length = ss.length
  · have : ¬ (((ps.length : Nat) : Int) ≠ ((ss.length : Nat) : Int)) := by simp [h]
    rw [if_neg this, hms]
  · have : (((ps.length : Nat) : Int) ≠ ((ss.length : Nat) : Int)) := by omega
    rw [if_pos this, if_neg h]

theorem msm_two (c q : G) (z : K) : msm [c, q] [(1 : K), z] = c + z • q := by
  simp [msm]

theorem msm_three (c l r : G) (x xi : K) : msm [c, l, r] [(1 : K), x, xi] = c + x • l + xi • r := by
  simp [msm]

/-! ### `generateChallenges` -/

theorem genChallenges_length (tr : Tr) (l r : List G) (h : l.length = r.length) :
    (genChallenges enc tr l r).1.length = l.length := by
  induction l generalizing r tr with
  | nil => cases r <;> simp [genChallenges]
  | cons a l ih =>
    cases r with
    | nil => simp at h
    | cons b r =>
      simp only [genChallenges, List.length_cons]
      rw [ih _ r (by simpa using h)]

/-- one round of `generateChallenges` at index `k` -/
def chStep (L R : List G) (t : Tr) (k : Nat) : K × Tr :=
  Tr.challenge enc ((t.appendPoint enc (L.getD k 0) Label.L).appendPoint enc (R.getD k 0) Label.R) Label.x

/-- the model's recursion over the two lists, read by index -/
theorem genChallenges_eq_range (L : List G) : ∀ (R : List G) (tr : Tr), L.length = R.length →
    genChallenges enc tr L R
      = ((List.range L.length).map (fun j => (chStep enc L R ((List.range j).foldl (fun t k => (chStep enc L R t k).2) tr) j).1),
         (List.range L.length).foldl (fun t k => (chStep enc L R t k).2) tr) := by
  induction L with
  | nil => intro R tr h; cases R <;> rfl
  | cons l L ih =>
    intro R tr h
    cases R with
    | nil => simp at h
    | cons r R =>
      have hs : ∀ j (t : Tr), (List.range (j + 1)).foldl (fun t k => (chStep enc (l :: L) (r :: R) t k).2) t
          = (List.range j).foldl (fun t k => (chStep enc L R t k).2) (chStep enc (l :: L) (r :: R) t 0).2 := by
        intro j t
        rw [List.range_succ_eq_map, List.foldl_cons, List.foldl_map]
        rfl
      simp only [genChallenges, ih R _ (by simpa using h), List.length_cons]
      rw [hs, List.range_succ_eq_map, List.map_cons, List.map_map]
      exact Prod.ext (congrArg₂ _ rfl (List.map_congr_left fun j _ => (congrArg (fun t => (chStep enc L R t j).1) (hs j tr)).symm)) rfl

/-- the loop of `generateChallenges`: the transcript runs on its own, `challenges[k]` is written from it -/
theorem generateChallenges_loop (L R : List G) (tr : Tr) (n : Nat) (f : Tr × List K → Nat → Tr × List K)
    (hf : ∀ t c k, f (t, c) k = ((chStep enc L R t k).2, c.set k (chStep enc L R t k).1)) :
    (List.range n).foldl f (tr, List.replicate n 0)
      = ((List.range n).foldl (fun t k => (chStep enc L R t k).2) tr,
         (List.range n).map (fun j => (chStep enc L R ((List.range j).foldl (fun t k => (chStep enc L R t k).2) tr) j).1)) := by
  have htr : ∀ j, (List.foldl f (tr, List.replicate n (0 : K)) (List.range j)).1
      = (List.range j).foldl (fun t k => (chStep enc L R t k).2) tr :=
    fun j => (List.foldl_hom (fun st : Tr × List K => st.1) (by rintro ⟨t, c⟩ k; rw [hf])).symm
  refine Prod.ext (htr n) ?_
  refine Eq.trans (foldl_write_up 0 (fun st : Tr × List K => st.2) f (fun st k _ => (chStep enc L R st.1 k).1) _ n
    (by exact List.length_replicate) (by rintro ⟨t, c⟩ k _ _; rw [hf])) ?_
  simp only [htr]

/-- **`generateChallenges`** (an index loop writing `challenges[i]`) is the model's recursion -/
theorem generateChallenges_eq (bvec : K → List K) (ms : List G → List K → Option G) (tr : Tr) (L R : List G) (a : K)
    (h : L.length = R.length) :
    Gen.Loops.generateChallenges enc bvec ms tr L R a = genChallenges enc tr L R := by
  unfold Gen.Loops.generateChallenges
  simp only [forUp_zero, Int.toNat_natCast, get_nat, set_nat]
  rw [genChallenges_eq_range enc L R tr h, generateChallenges_loop enc L R tr _ _ (by intros; rfl)]

/-! ### `CheckIPAProof` -/

theorem forUpOpt_some {σ : Type} (lo hi : Int) (st : σ) (body : Int → σ → Option σ) (f : Int → σ → σ)
    (h : ∀ i s, body i s = some (f i s)) : Loop.forUpOpt lo hi st body = some (Loop.forUp lo hi st f) := by
  unfold Loop.forUpOpt Loop.forUp
  generalize (List.range (hi - lo).toNat) = l
  induction l generalizing st with
  | nil => rfl
  | cons k l ih =>
    rw [List.foldl_cons, List.foldl_cons]
    show List.foldl _ (body (lo + (k : Int)) st) l = _
    rw [h]
    exact ih _

theorem bit_test (i j : Nat) (hj : j < 8) :
    (Loop.band (i : Int) (Loop.shl 1 (7 - (j : Int))) > 0) ↔ (i &&& (1 <<< (8 - 1 - j)) > 0) := by
  unfold Loop.band Loop.shl
  have e : (7 - (j : Int)).toNat = 8 - 1 - j := by omega
  simp only [Int.toNat_natCast, e, Int.toNat_one]
  omega

/-- the result of the translated verifier that corresponds to a result of the model -/
def ofModel (r : Except VErr Bool × Tr) : Option (Bool × Tr) :=
  match r.1 with
  | .ok b => some (b, r.2)
  | .error _ => none

/-- **`CheckIPAProof`, translated from the source, is the model's `ipaVerify`** (for the 8-round
configuration the code hard-wires in its bit test `1 << (7 − j)`): same decision, same transcript,
an error return exactly where the model reports one. -/
theorem checkIPAProof_eq (cfg : IpaCfg K G) (ms : List G → List K → Option G) (hms : MsOk ms)
    (hr : cfg.rounds = 8) (tr : Tr) (C : G) (proof : IpaProof K G) (z y : K)
    (hb : (bVector cfg z).length = cfg.srs.length) :
    Gen.Loops.checkIPAProof enc (bVector cfg) ms tr cfg.Q cfg.srs (cfg.rounds : Int) C proof.L proof.R proof.a z y
      = ofModel (ipaVerify enc cfg tr C proof z y) := by
  unfold Gen.Loops.checkIPAProof ipaVerify ofModel
  -- the guards of the two sides become the same propositions
  simp only [ne_eq, Nat.cast_inj]
  by_cases h1 : proof.L.length = proof.R.length
  swap
  · rw [if_pos h1, if_pos h1]
  by_cases h2 : proof.L.length = cfg.rounds
  swap
  · rw [if_neg (not_not_intro h1), if_neg (not_not_intro h1), if_pos h2, if_pos h2]
  rw [if_neg (not_not_intro h1), if_neg (not_not_intro h1), if_neg (not_not_intro h2), if_neg (not_not_intro h2)]
  -- the transcript prefix
  rw [show Gen.Loops.labelDomainSep = Label.ipa from rfl, show Gen.Loops.labelC = Label.C from rfl,
    show Gen.Loops.labelInputPoint = Label.inputPoint from rfl, show Gen.Loops.labelOutputPoint = Label.outputPoint from rfl,
    show Gen.Loops.labelW = Label.w from rfl]
  generalize (((tr.domainSep Label.ipa).appendPoint enc C Label.C).appendScalar enc z Label.inputPoint).appendScalar enc y
    Label.outputPoint = tr1
  generalize Tr.challenge enc tr1 Label.w = wc
  obtain ⟨w, tr2⟩ := wc
  simp only
  rw [generateChallenges_eq enc _ _ tr2 proof.L proof.R proof.a h1, batchInvert_eq]
  generalize hgc : genChallenges enc tr2 proof.L proof.R = gc
  have hxl : gc.1.length = proof.L.length := by rw [← hgc]; exact genChallenges_length enc tr2 _ _ h1
  obtain ⟨xs, tr3⟩ := gc
  simp only at hxl ⊢
  set xInvs := GoIpa.batchInvert xs with hxi
  have hxil : xInvs.length = xs.length := batchInvert_length xs
  have h8 : xs.length = 8 := by omega
  -- the accumulation C + Σ xⱼ Lⱼ + xⱼ⁻¹ Rⱼ
  rw [forUpOpt_some _ _ _ _ (fun (i : Int) (c : G) =>
      c + Loop.get xs i 0 • Loop.get proof.L i 0 + Loop.get xInvs i 0 • Loop.get proof.R i 0)
    (by
      intro i s
      rw [commit_eq enc _ ms hms]
      simp only [List.length_cons, List.length_nil, ↓reduceIte, msm_three])]
  rw [foldl_zip4 _ xs xInvs proof.L proof.R 0 0 0 0 xs.length rfl hxil (by omega) (by omega)]
  simp only [forUp_zero, Int.toNat_natCast, get_nat]
  -- the folding scalars
  rw [foldl_set_map 0 (fun i _ => foldingScalar cfg.rounds xInvs i) _ _ cfg.srs.length List.length_replicate
    (by
      intro l i _ _
      simp only [set_nat]
      congr 1
      unfold foldingScalar
      rw [zipIdx_eq_range_map xInvs 0, List.foldl_map, hxil, hr]
      apply List.foldl_ext
      intro acc k hk
      have hk8 : k < 8 := by rw [← h8]; exact List.mem_range.mp hk
      simp only [get_nat, bit_test i k hk8])]
  set fs := (List.range cfg.srs.length).map fun i => foldingScalar cfg.rounds xInvs i with hfs
  have hfl : fs.length = cfg.srs.length := by simp [hfs]
  rw [hms, if_pos hfl.symm]
  simp only
  rw [Tie.Loops.innerProd_eq (bVector cfg z) fs (by rw [hb, hfl])]
  simp only [Bool.decide_eq_true]

/-! ### `CreateIPAProof` -/

/-- the loop state of `CreateIPAProof`: `L`, `R`, transcript, `a`, `b`, current basis -/
abbrev PState (K G : Type) := List G × List G × Tr × List K × List K × List G

/-- the body of the round loop, as the translator emits it (checked against the generated
function by `createIPAProof_unfold`) -/
def goBody (bvec : K → List K) (ms : List G → List K → Option G) (q : G) (i : Int) (st : PState K G) : Option (PState K G) :=
  let (L, R, transcript, a, b, current_basis) := st
  match (Gen.Loops.splitScalars a) with
  | none => none
  | some (a_L, a_R) =>
    match (Gen.Loops.splitScalars b) with
    | none => none
    | some (b_L, b_R) =>
      match (Gen.Loops.splitPoints current_basis) with
      | none => none
      | some (G_L, G_R) =>
        match (Gen.Loops.innerProd a_R b_L) with
        | none => none
        | some z_L =>
          match (Gen.Loops.innerProd a_L b_R) with
          | none => none
          | some z_R =>
            match (Gen.Loops.commit enc bvec ms G_L a_R) with
            | none => none
            | some C_L_1 =>
              match (Gen.Loops.commit enc bvec ms ([C_L_1, q] : List G) ([(1 : K), z_L] : List K)) with
              | none => none
              | some C_L =>
                match (Gen.Loops.commit enc bvec ms G_R a_L) with
                | none => none
                | some C_R_1 =>
                  match (Gen.Loops.commit enc bvec ms ([C_R_1, q] : List G) ([(1 : K), z_R] : List K)) with
                  | none => none
                  | some C_R =>
                    let L : List G := Loop.set L i (C_L)
                    let R : List G := Loop.set R i (C_R)
                    let transcript : Tr := Tr.appendPoint enc transcript C_L Gen.Loops.labelL
                    let transcript : Tr := Tr.appendPoint enc transcript C_R Gen.Loops.labelR
                    let (c_3, transcript) := Tr.challenge enc transcript Gen.Loops.labelX
                    let x : K := c_3
                    let xInv : K := 0
                    let xInv : K := x⁻¹
                    match (Gen.Loops.foldScalars a_L a_R x) with
                    | none => none
                    | some a =>
                      match (Gen.Loops.foldScalars b_L b_R xInv) with
                      | none => none
                      | some b =>
                        match (Gen.Loops.foldPoints G_L G_R xInv) with
                        | none => none
                        | some current_basis =>
                          some (L, R, transcript, a, b, current_basis)

theorem two_pow_succ_half (n : Nat) : 2 ^ (n + 1) / 2 = 2 ^ n := by
  rw [pow_succ]; omega

/-- the two halves of a list of length `2^(n+1)` -/
theorem halves_length {α : Type} (l : List α) (m n : Nat) (hm : m = 2 ^ n) (h : l.length = 2 ^ (n + 1)) :
    (l.take m).length = 2 ^ n ∧ (l.drop m).length = 2 ^ n := by
  rw [List.length_take, List.length_drop, h, hm, pow_succ]
  omega

/-- one round of the Go loop is one unfolding of the model's `ipaRounds` -/
theorem goBody_step (bvec : K → List K) (ms : List G → List K → Option G) (hms : MsOk ms) (q : G) (i : Nat) (n : Nat)
    (L R : List G) (tr : Tr) (a b : List K) (g : List G)
    (ha : a.length = 2 ^ (n + 1)) (hb : b.length = 2 ^ (n + 1)) (hg : g.length = 2 ^ (n + 1)) :
    let m := a.length / 2
    let cL := msm (g.take m) (a.drop m) + innerProd (a.drop m) (b.take m) • q
    let cR := msm (g.drop m) (a.take m) + innerProd (a.take m) (b.drop m) • q
    let xc := ((tr.appendPoint enc cL Label.L).appendPoint enc cR Label.R).challenge enc Label.x
    goBody enc bvec ms q (i : Int) (L, R, tr, a, b, g)
      = some (L.set i cL, R.set i cR, xc.2, GoIpa.foldScalars (a.take m) (a.drop m) xc.1,
          GoIpa.foldScalars (b.take m) (b.drop m) xc.1⁻¹, GoIpa.foldPoints (g.take m) (g.drop m) xc.1⁻¹) := by
  intro m cL cR xc
  have hm : m = 2 ^ n := by show a.length / 2 = _; rw [ha, two_pow_succ_half]
  have hbm : b.length / 2 = m := by rw [hb, two_pow_succ_half, hm]
  have hgm : g.length / 2 = m := by rw [hg, two_pow_succ_half, hm]
  have h2n : 2 ^ (n + 1) = 2 ^ n + 2 ^ n := by rw [pow_succ]; omega
  have ev : ∀ k, k = 2 ^ (n + 1) → k % 2 = 0 := by intro k hk; rw [hk, pow_succ]; omega
  unfold goBody
  simp only
  rw [splitScalars_eq a (ev _ ha), splitScalars_eq b (ev _ hb), splitPoints_eq g (ev _ hg)]
  simp only [hbm, hgm]
  obtain ⟨ta, da⟩ := halves_length a m n hm ha
  obtain ⟨tb, db⟩ := halves_length b m n hm hb
  obtain ⟨tg, dg⟩ := halves_length g m n hm hg
  have l1 : (a.drop m).length = (b.take m).length := da.trans tb.symm
  have l2 : (a.take m).length = (b.drop m).length := ta.trans db.symm
  have l3 : (g.take m).length = (a.drop m).length := tg.trans da.symm
  have l4 : (g.drop m).length = (a.take m).length := dg.trans ta.symm
  have l5 : (a.take m).length = (a.drop m).length := ta.trans da.symm
  have l6 : (b.take m).length = (b.drop m).length := tb.trans db.symm
  have l7 : (g.take m).length = (g.drop m).length := tg.trans dg.symm
  rw [Tie.Loops.innerProd_eq _ _ l1, Tie.Loops.innerProd_eq _ _ l2]
  simp only
  rw [commit_eq enc _ ms hms, if_pos l3]
  simp only
  rw [commit_eq enc _ ms hms]
  simp only [List.length_cons, List.length_nil, ↓reduceIte, msm_two]
  rw [commit_eq enc _ ms hms, if_pos l4]
  simp only
  rw [commit_eq enc _ ms hms]
  simp only [List.length_cons, List.length_nil, ↓reduceIte, msm_two]
  rw [foldScalars_eq _ _ _ l5, foldScalars_eq _ _ _ l6, foldPoints_eq _ _ _ l7]
  simp only [set_nat]
  rfl

theorem foldl_none {σ : Type} (l : List Nat) (body : Int → σ → Option σ) :
    l.foldl (fun (o : Option σ) (k : Nat) => match o with | none => none | some s => body (k : Int) s) none = none := by
  induction l with
  | nil => rfl
  | cons k l ih => exact ih

/-- a list that holds `xs` in the window from `i0 + 1` of `L.set i0 c` holds `c :: xs` in the window from `i0` of `L` -/
theorem getD_window_cons {α : Type} (d c : α) (L L' xs : List α) (i0 n : Nat) (hi : i0 < L.length)
    (h : ∀ j, L'.getD j d = if i0 + 1 ≤ j ∧ j < i0 + 1 + n then xs.getD (j - (i0 + 1)) d else (L.set i0 c).getD j d) (j : Nat) :
    L'.getD j d = if i0 ≤ j ∧ j < i0 + (n + 1) then (c :: xs).getD (j - i0) d else L.getD j d := by
  rw [h j]
  by_cases hj0 : j = i0
  · subst hj0
    rw [if_neg (by omega), if_pos (by omega), getD_set_self _ _ _ _ hi, Nat.sub_self, List.getD_cons_zero]
  · by_cases hin : i0 + 1 ≤ j ∧ j < i0 + 1 + n
    · rw [if_pos hin, if_pos (by omega), show j - i0 = (j - (i0 + 1)) + 1 by omega, List.getD_cons_succ]
    · rw [if_neg hin, if_neg (by omega), getD_set_ne _ _ _ _ _ (Ne.symm hj0)]

/-- **The remaining `n` iterations of the round loop, started at index `i0`, are `ipaRounds n`.** -/
theorem run_eq (bvec : K → List K) (ms : List G → List K → Option G) (hms : MsOk ms) (q : G) (n : Nat) :
    ∀ (i0 : Nat) (L R : List G) (tr : Tr) (a b : List K) (g : List G),
      a.length = 2 ^ n → b.length = 2 ^ n → g.length = 2 ^ n → i0 + n ≤ L.length → i0 + n ≤ R.length →
      ∃ (L' R' : List G) (b' : List K) (g' : List G),
        (List.range' i0 n).foldl (fun (o : Option (PState K G)) (k : Nat) =>
            match o with | none => none | some s => goBody enc bvec ms q (k : Int) s) (some (L, R, tr, a, b, g))
          = some (L', R', (ipaRounds enc q n tr a b g).2.2.2, (ipaRounds enc q n tr a b g).2.2.1, b', g') ∧
        (ipaRounds enc q n tr a b g).2.2.1.length = 1 ∧
        (ipaRounds enc q n tr a b g).1.length = n ∧ (ipaRounds enc q n tr a b g).2.1.length = n ∧
        L'.length = L.length ∧ R'.length = R.length ∧
        (∀ j, L'.getD j 0 = if i0 ≤ j ∧ j < i0 + n then (ipaRounds enc q n tr a b g).1.getD (j - i0) 0 else L.getD j 0) ∧
        (∀ j, R'.getD j 0 = if i0 ≤ j ∧ j < i0 + n then (ipaRounds enc q n tr a b g).2.1.getD (j - i0) 0 else R.getD j 0) := by
  induction n with
  | zero =>
    intro i0 L R tr a b g ha _ _ _ _
    refine ⟨L, R, b, g, rfl, by simpa [ipaRounds] using ha, rfl, rfl, rfl, rfl, ?_, ?_⟩ <;>
    · intro j
      have : ¬ (i0 ≤ j ∧ j < i0 + 0) := by omega
      rw [if_neg this]
  | succ n ih =>
    intro i0 L R tr a b g ha hb hg hL hR
    rw [List.range'_succ, List.foldl_cons]
    simp only
    have hstep := goBody_step enc bvec ms hms q i0 n L R tr a b g ha hb hg
    simp only at hstep
    rw [hstep]
    set m := a.length / 2 with hm
    have hm' : m = 2 ^ n := by rw [hm, ha, two_pow_succ_half]
    set cL := msm (g.take m) (a.drop m) + innerProd (a.drop m) (b.take m) • q with hcL
    set cR := msm (g.drop m) (a.take m) + innerProd (a.take m) (b.drop m) • q with hcR
    set xc := ((tr.appendPoint enc cL Label.L).appendPoint enc cR Label.R).challenge enc Label.x with hxc
    obtain ⟨ta, da⟩ := halves_length a m n hm' ha
    obtain ⟨tb, db⟩ := halves_length b m n hm' hb
    obtain ⟨tg, dg⟩ := halves_length g m n hm' hg
    have la : (GoIpa.foldScalars (a.take m) (a.drop m) xc.1).length = 2 ^ n := by
      unfold GoIpa.foldScalars; rw [List.length_zipWith, ta, da, Nat.min_self]
    have lb : (GoIpa.foldScalars (b.take m) (b.drop m) xc.1⁻¹).length = 2 ^ n := by
      unfold GoIpa.foldScalars; rw [List.length_zipWith, tb, db, Nat.min_self]
    have lg : (GoIpa.foldPoints (g.take m) (g.drop m) xc.1⁻¹).length = 2 ^ n := by
      unfold GoIpa.foldPoints; rw [List.length_zipWith, tg, dg, Nat.min_self]
    obtain ⟨L', R', b', g', e1, e2, e3, e4, e5, e6, e7, e8⟩ := ih (i0 + 1) (L.set i0 cL) (R.set i0 cR) xc.2 _ _ _ la lb lg
      (by simp; omega) (by simp; omega)
    -- the model's unfolding
    have hmodel : ipaRounds enc q (n + 1) tr a b g =
        (cL :: (ipaRounds enc q n xc.2 (GoIpa.foldScalars (a.take m) (a.drop m) xc.1)
            (GoIpa.foldScalars (b.take m) (b.drop m) xc.1⁻¹) (GoIpa.foldPoints (g.take m) (g.drop m) xc.1⁻¹)).1,
         cR :: (ipaRounds enc q n xc.2 (GoIpa.foldScalars (a.take m) (a.drop m) xc.1)
            (GoIpa.foldScalars (b.take m) (b.drop m) xc.1⁻¹) (GoIpa.foldPoints (g.take m) (g.drop m) xc.1⁻¹)).2.1,
         (ipaRounds enc q n xc.2 (GoIpa.foldScalars (a.take m) (a.drop m) xc.1)
            (GoIpa.foldScalars (b.take m) (b.drop m) xc.1⁻¹) (GoIpa.foldPoints (g.take m) (g.drop m) xc.1⁻¹)).2.2.1,
         (ipaRounds enc q n xc.2 (GoIpa.foldScalars (a.take m) (a.drop m) xc.1)
            (GoIpa.foldScalars (b.take m) (b.drop m) xc.1⁻¹) (GoIpa.foldPoints (g.take m) (g.drop m) xc.1⁻¹)).2.2.2) := by
      rfl
    rw [hmodel]
    simp only
    exact ⟨L', R', b', g', e1, e2, by simp [e3], by simp [e4], by simpa using e5, by simpa using e6,
      getD_window_cons 0 cL L L' _ i0 n (by omega) e7, getD_window_cons 0 cR R R' _ i0 n (by omega) e8⟩

/-- the translated prover is its prologue, the round loop with body `goBody`, and its epilogue -/
theorem createIPAProof_unfold (bvec : K → List K) (ms : List G → List K → Option G) (tr : Tr) (Q : G) (srs : List G)
    (rounds : Int) (C : G) (a : List K) (z : K) :
    Gen.Loops.createIPAProof enc bvec ms tr Q srs rounds C a z =
      (match Gen.Loops.innerProd a (bvec z) with
       | none => none
       | some ip =>
         let tr1 := (((tr.domainSep Gen.Loops.labelDomainSep).appendPoint enc C Gen.Loops.labelC).appendScalar enc z
            Gen.Loops.labelInputPoint).appendScalar enc ip Gen.Loops.labelOutputPoint
         let wc := Tr.challenge enc tr1 Gen.Loops.labelW
         match Loop.forUpOpt 0 rounds
            ((List.replicate rounds.toNat (0 : G), List.replicate rounds.toNat (0 : G), wc.2, a, bvec z, srs) : PState K G)
            (goBody enc bvec ms (wc.1 • Q)) with
         | none => none
         | some (L, R, transcript, a, _, _) =>
           if (((a.length : Nat) : Int) ≠ 1) then none else some ((L, R, Loop.get a 0 0), transcript)) := by
  rfl

/-- the result of the translated prover that corresponds to a result of the model -/
def ofModelP (r : Option (IpaProof K G) × Tr) : Option ((List G × List G × K) × Tr) :=
  match r.1 with
  | some p => some ((p.L, p.R, p.a), r.2)
  | none => none

/-- **`CreateIPAProof`, translated from the source, is the model's `ipaProve`** for every
configuration with `2^rounds` basis points and every vector of that length. -/
theorem createIPAProof_eq (cfg : IpaCfg K G) (ms : List G → List K → Option G) (hms : MsOk ms)
    (tr : Tr) (C : G) (a : List K) (z : K)
    (hsrs : cfg.srs.length = 2 ^ cfg.rounds) (ha : a.length = 2 ^ cfg.rounds)
    (hb : (bVector cfg z).length = 2 ^ cfg.rounds) :
    Gen.Loops.createIPAProof enc (bVector cfg) ms tr cfg.Q cfg.srs (cfg.rounds : Int) C a z
      = ofModelP (ipaProve enc cfg tr C a z) := by
  rw [createIPAProof_unfold, Tie.Loops.innerProd_eq a _ (by rw [ha, hb])]
  simp only
  unfold ipaProve ofModelP
  simp only
  rw [show Gen.Loops.labelDomainSep = Label.ipa from rfl, show Gen.Loops.labelC = Label.C from rfl,
    show Gen.Loops.labelInputPoint = Label.inputPoint from rfl, show Gen.Loops.labelOutputPoint = Label.outputPoint from rfl,
    show Gen.Loops.labelW = Label.w from rfl]
  generalize Tr.challenge enc ((((tr.domainSep Label.ipa).appendPoint enc C Label.C).appendScalar enc z
    Label.inputPoint).appendScalar enc (GoIpa.innerProd a (bVector cfg z)) Label.outputPoint) Label.w = wc
  obtain ⟨w, tr1⟩ := wc
  simp only [Int.toNat_natCast]
  obtain ⟨L', R', b', g', e1, e2, e3, e4, e5, e6, e7, e8⟩ := run_eq enc (bVector cfg) ms hms (w • cfg.Q) cfg.rounds 0
    (List.replicate cfg.rounds (0 : G)) (List.replicate cfg.rounds (0 : G)) tr1 a (bVector cfg z) cfg.srs ha hb hsrs
    (by simp) (by simp)
  have hloop : Loop.forUpOpt 0 (cfg.rounds : Int)
      ((List.replicate cfg.rounds (0 : G), List.replicate cfg.rounds (0 : G), tr1, a, bVector cfg z, cfg.srs) : PState K G)
      (goBody enc (bVector cfg) ms (w • cfg.Q))
      = (List.range' 0 cfg.rounds).foldl (fun (o : Option (PState K G)) (k : Nat) =>
          match o with | none => none | some s => goBody enc (bVector cfg) ms (w • cfg.Q) (k : Int) s)
          (some (List.replicate cfg.rounds (0 : G), List.replicate cfg.rounds (0 : G), tr1, a, bVector cfg z, cfg.srs)) := by
    unfold Loop.forUpOpt Loop.forUp
    rw [List.range_eq_range']
    simp only [Int.sub_zero, Int.toNat_natCast, Int.zero_add]
    congr 1
    funext o k
    cases o <;> rfl
  rw [hloop, e1]
  generalize hR : ipaRounds enc (w • cfg.Q) cfg.rounds tr1 a (bVector cfg z) cfg.srs = Rm at e1 e2 e3 e4 e7 e8 ⊢
  obtain ⟨Ls, Rs, af, trf⟩ := Rm
  simp only at e2 e3 e4 e7 e8 ⊢
  have hne : ¬ (((af.length : Nat) : Int) ≠ 1) := by omega
  rw [if_neg hne]
  match af, e2 with
  | [a0], _ =>
    simp only
    have hL : L' = Ls := by
      apply ext_getD _ _ (0 : G) (by rw [e5, e3]; simp)
      intro j hj
      rw [e5, List.length_replicate] at hj
      rw [e7 j, if_pos (by omega)]; simp
    have hRr : R' = Rs := by
      apply ext_getD _ _ (0 : G) (by rw [e6, e4]; simp)
      intro j hj
      rw [e6, List.length_replicate] at hj
      rw [e8 j, if_pos (by omega)]; simp
    rw [hL, hRr]
    rfl

/-! ### `CheckMultiProof` -/

theorem zip3_eq_range_map {α β γ : Type} (a : List α) (b : List β) (c : List γ)
    (da : α) (db : β) (dc : γ) (n : Nat) (ha : a.length = n) (hb : b.length = n) (hc : c.length = n) :
    List.zip a (List.zip b c) = (List.range n).map (fun k => (a.getD k da, b.getD k db, c.getD k dc)) := by
  apply List.ext_getElem (by simp [ha, hb, hc])
  intro j h1 h2
  simp only [List.length_zip, ha, hb, hc, Nat.min_self] at h1
  simp [List.getD_eq_getElem?_getD, ha ▸ h1, hb ▸ h1, hc ▸ h1]

/-- a fold over two parallel slices is the index loop over them -/
theorem foldl_zip2 {α β σ : Type} (g : σ → α × β → σ) (a : List α) (b : List β)
    (da : α) (db : β) (n : Nat) (ha : a.length = n) (hb : b.length = n) (init : σ) :
    (List.zip a b).foldl g init = (List.range n).foldl (fun st k => g st (a.getD k da, b.getD k db)) init := by
  have h : List.zip a b = (List.range n).map (fun k => (a.getD k da, b.getD k db)) := by
    rw [← ha]; exact zipWith_eq_range_map Prod.mk a b da db (ha.trans hb.symm)
  rw [h, List.foldl_map]

/-- a fold over three parallel slices is the index loop over them -/
theorem foldl_zip3 {α β γ σ : Type} (g : σ → α × β × γ → σ) (a : List α) (b : List β) (c : List γ)
    (da : α) (db : β) (dc : γ) (n : Nat) (ha : a.length = n) (hb : b.length = n) (hc : c.length = n) (init : σ) :
    (List.zip a (List.zip b c)).foldl g init
      = (List.range n).foldl (fun st k => g st (a.getD k da, b.getD k db, c.getD k dc)) init := by
  rw [zip3_eq_range_map a b c da db dc n ha hb hc, List.foldl_map]

theorem domainToFr_eq (n : Nat) : Gen.Loops.domainToFr (K := K) (n : Int) = ((n : Nat) : K) := by
  unfold Gen.Loops.domainToFr; simp

theorem foldl_set_length {α β : Type} (l : List β) (f : List α → β → Nat) (g : List α → β → α) (init : List α) :
    (l.foldl (fun ge e => ge.set (f ge e) (g ge e)) init).length = init.length := by
  induction l generalizing init with
  | nil => rfl
  | cons x l ih => rw [List.foldl_cons, ih]; simp

/-- a loop that fills two lists at once -/
theorem foldl_two_lists {α β : Type} (n : Nat) (da : α) (db : β) (f : Nat → α) (g : Nat → β) :
    (List.range n).foldl (fun (st : List α × List β) (k : Nat) => (st.1.set k (f k), st.2.set k (g k)))
      (List.replicate n da, List.replicate n db) = ((List.range n).map f, (List.range n).map g) :=
  Prod.ext (foldl_write_up da (fun st : List α × List β => st.1) _ (fun _ k _ => f k) _ n List.length_replicate (fun _ _ _ _ => rfl))
    (foldl_write_up db (fun st : List α × List β => st.2) _ (fun _ k _ => g k) _ n List.length_replicate (fun _ _ _ _ => rfl))

theorem ofModel_bind (r : Except VErr Bool × Tr) :
    (match ofModel r with
     | none => none
     | some (ok, transcript) => some (ok, transcript)) = ofModel r := by
  unfold ofModel
  cases r.1 <;> rfl

/-- **`CheckMultiProof`, translated from the source, is the model's `mpVerify`** (256-point domain,
8 rounds): same decision, same transcript, an error return exactly where the model reports one. -/
theorem checkMultiProof_eq (cfg : IpaCfg K G) (hN : cfg.N = 256) (hr : cfg.rounds = 8)
    (ms : List G → List K → Option G) (hms : MsOk ms) (hbv : ∀ z, (bVector cfg z).length = cfg.srs.length)
    (tr : Tr) (proof : MultiProof K G) (Cs : List G) (ys : List K) (zs : List Nat) :
    Gen.Loops.checkMultiProof enc (bVector cfg) ms tr cfg.Q cfg.srs (cfg.rounds : Int)
        proof.ipa.L proof.ipa.R proof.ipa.a proof.D Cs ys (zs.map (fun (z : Nat) => (z : Int)))
      = ofModel (mpVerify enc cfg tr proof Cs ys zs) := by
  unfold Gen.Loops.checkMultiProof mpVerify
  -- the guards of the two sides become the same propositions
  simp only [List.length_map, ne_eq, Nat.cast_inj, Nat.cast_eq_zero]
  by_cases h1 : Cs.length = ys.length
  swap
  · rw [if_pos h1, if_pos h1]; rfl
  by_cases h2 : Cs.length = zs.length
  swap
  · rw [if_neg (not_not_intro h1), if_neg (not_not_intro h1), if_pos h2, if_pos h2]; rfl
  by_cases h3 : Cs.length = 0
  · rw [if_neg (not_not_intro h1), if_neg (not_not_intro h1), if_neg (not_not_intro h2), if_neg (not_not_intro h2),
      if_pos h3, if_pos h3]; rfl
  rw [if_neg (not_not_intro h1), if_neg (not_not_intro h1), if_neg (not_not_intro h2), if_neg (not_not_intro h2),
    if_neg h3, if_neg h3]
  set n := Cs.length with hn
  have hys : ys.length = n := by omega
  have hzs : zs.length = n := by omega
  have h256 : ((256 : Int)) = ((256 : Nat) : Int) := rfl
  simp only [h256, forUp_zero, Int.toNat_natCast, hN]
  rw [show Gen.Loops.mp_labelDomainSep = Label.multiproof from rfl, show Gen.Loops.mp_labelC = Label.C from rfl,
    show Gen.Loops.mp_labelZ = Label.z from rfl, show Gen.Loops.mp_labelY = Label.y from rfl,
    show Gen.Loops.mp_labelR = Label.r from rfl, show Gen.Loops.mp_labelD = Label.D from rfl,
    show Gen.Loops.mp_labelT = Label.t from rfl, show Gen.Loops.mp_labelE = Label.E from rfl]
  -- the statement as absorbed
  rw [foldl_zip3 _ Cs ys zs 0 0 0 n rfl hys hzs]
  -- every loop of the source in index form
  simp only [get_nat, set_nat, getD_map_cast, domainToFr_eq]
  generalize (List.range n).foldl _ (tr.domainSep Label.multiproof) = tr1
  generalize Tr.challenge enc tr1 Label.r = rc
  obtain ⟨r, tr2⟩ := rc
  simp only
  rw [powersOf_eq r n (by omega)]
  generalize Tr.challenge enc (tr2.appendPoint enc proof.D Label.D) Label.t = tc
  obtain ⟨t, tr3⟩ := tc
  simp only
  set pows := GoIpa.powersOf r n with hpows
  have hpl : pows.length = n := by rw [hpows]; unfold GoIpa.powersOf; exact powersFrom_length r 1 n
  -- grouped evaluations
  rw [foldl_zip3 _ pows ys zs 0 0 0 n hpl hys hzs]
  simp only
  generalize hge : (List.range n).foldl _ (List.replicate 256 (0 : K)) = ge
  have hgel : ge.length = 256 := by
    rw [← hge, foldl_set_length (List.range n) (fun _ k => zs.getD k 0) (fun ge k => ge.getD (zs.getD k 0) 0 + pows.getD k 0 * ys.getD k 0)]
    exact List.length_replicate
  -- the inverse denominators
  rw [foldl_set_map 0 (fun i _ => t - ((i : Nat) : K)) _ _ 256 List.length_replicate (fun _ _ _ _ => rfl), batchInvert_eq]
  set denInv := GoIpa.batchInvert ((List.range 256).map fun (i : Nat) => t - (i : K)) with hdi
  have hdl : denInv.length = 256 := by rw [hdi, batchInvert_length]; simp
  -- g₂(t), the commitments and their scalars
  rw [foldl_zip2 _ ge denInv 0 0 256 hgel hdl,
    foldl_two_lists n (0 : G) (0 : K) (fun k => Cs.getD k 0) (fun k => pows.getD k 0 * denInv.getD (zs.getD k 0) 0),
    ← eq_range_map Cs 0, zipWith_eq_range_map _ pows zs 0 0 (by rw [hpl, hzs]), hpl]
  simp only
  rw [hms, if_pos (by rw [List.length_map, List.length_range])]
  simp only
  rw [checkIPAProof_eq enc cfg ms hms hr _ _ proof.ipa t _ (hbv t)]
  exact ofModel_bind _

/-- **End to end for C02:** the Go verifier, translated from the current source, returns what the
*reference* verifier returns — for every proof, commitments, claimed values and domain indices
`< 256`, honest or not (composition of `checkMultiProof_eq` with `C02.mpVerify_eq_spec`). -/
theorem checkMultiProof_eq_spec (cfg : IpaCfg K G) (hN : cfg.N = 256) (hr : cfg.rounds = 8)
    (hsrs : cfg.srs.length = 2 ^ cfg.rounds)
    (ms : List G → List K → Option G) (hms : MsOk ms) (hbv : ∀ z, (bVector cfg z).length = cfg.srs.length)
    (tr : Tr) (proof : MultiProof K G) (Cs : List G) (ys : List K) (zs : List Nat) (hz : ∀ z ∈ zs, z < 256) :
    Gen.Loops.checkMultiProof enc (bVector cfg) ms tr cfg.Q cfg.srs (cfg.rounds : Int)
        proof.ipa.L proof.ipa.R proof.ipa.a proof.D Cs ys (zs.map (fun (z : Nat) => (z : Int)))
      = ofModel (C02.specMpVerify enc cfg tr proof Cs ys zs) := by
  rw [checkMultiProof_eq enc cfg hN hr ms hms hbv,
    C02.mpVerify_eq_spec enc cfg hsrs tr proof Cs ys zs (by rw [hN]; exact hz)]

end GoIpa.Tie.Protocol
