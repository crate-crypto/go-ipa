/-
  Tie T1 for the template instances `msmC<k>` of `bandersnatch/multiexp.go`: every instance in
  the current source is the template of the model's `msmInner` instantiated at its own `c` —
  one goroutine per chunk over all points, the narrower top chunk exactly when `c ∤ 256`, the
  first chunk over `points[:split], scalars[:split]` and `points[split:], scalars[split:]`
  (same split on both), Horner reduction — and the dispatch calls instance `k` for `c = k`.
-/
import GoIpa.Gen.Formulas
import GoIpa.Props.C09Msm
namespace GoIpa.Tie.Msm
open GoIpa

def sig : String := "func(p *PointProj, points []PointAffine, scalars []fr.Element, splitFirstChunk bool) *PointProj"
def chanInit : String := "for i := 0; i < len(chChunks); i++ { chChunks[i] = make(chan PointProj, 1) }"
def procChunk : String := "processChunk := func(j int, points []PointAffine, scalars []fr.Element, chChunk chan PointProj) { var buckets [1 << (c - 1)]PointProj msmProcessChunkPointAffine(uint64(j), chChunk, buckets[:], c, points, scalars) }"
def chunkLoop : String := "for j := int(nbChunks - 1); j > 0; j-- { go processChunk(j, points, scalars, chChunks[j]) }"
def firstChunk : String := "if !splitFirstChunk { go processChunk(0, points, scalars, chChunks[0]) } else { chSplit := make(chan PointProj, 2) split := len(points) / 2 go processChunk(0, points[:split], scalars[:split], chSplit) go processChunk(0, points[split:], scalars[split:], chSplit) go func() { s1 := <-chSplit s2 := <-chSplit close(chSplit) s1.Add(&s1, &s2) chChunks[0] <- s1 }() }"
def reduce : String := "return msmReduceChunkPointAffine(p, c, chChunks[:])"
def lastC : String := "const lastC = (fr.Limbs * 64) - (c * (fr.Limbs * 64 / c))"
def topChunk : String := "go func(j uint64, points []PointAffine, scalars []fr.Element) { var buckets [1 << (lastC - 1)]PointProj msmProcessChunkPointAffine(j, chChunks[j], buckets[:], c, points, scalars) }(uint64(nbChunks), points, scalars)"

/-- the template, instantiated at `c` -/
def template (c : Nat) : List String :=
  let consts := "const ( c = " ++ toString c ++ " nbChunks = (fr.Limbs * 64 / c) )"
  if 256 % c = 0 then
    [sig, consts, "var chChunks [nbChunks]chan PointProj", chanInit, procChunk, chunkLoop, firstChunk, reduce]
  else
    [sig, consts, "var chChunks [nbChunks + 1]chan PointProj", chanInit, lastC, topChunk, procChunk, chunkLoop,
      firstChunk, reduce]

/-- `msmC4` is the hand-tuned variant: results in an array instead of channels, a wait group -/
def templateC4 : List String :=
  [sig, "const ( c = 4 nbChunks = (fr.Limbs * 64 / c) )", "var chChunks [nbChunks]PointProj",
   "processChunk := func(j int, points []PointAffine, scalars []fr.Element, pointProj *PointProj) { var buckets [1 << (c - 1)]PointProj msmProcessChunkPointAffineDMA(uint64(j), pointProj, buckets[:], c, points, scalars) }",
   "var wg sync.WaitGroup", "wg.Add(int(nbChunks - 1))",
   "for j := int(nbChunks - 1); j > 0; j-- { j := j go func() { processChunk(j, points, scalars, &chChunks[j]) wg.Done() }() }",
   "wg.Wait()",
   "if !splitFirstChunk { processChunk(0, points, scalars, &chChunks[0]) } else { chSplits := make([]PointProj, 2) split := len(points) / 2 var wg sync.WaitGroup wg.Add(2) go func() { processChunk(0, points[:split], scalars[:split], &chSplits[0]) wg.Done() }() go func() { processChunk(0, points[split:], scalars[split:], &chSplits[1]) wg.Done() }() wg.Wait() chSplits[0].Add(&chSplits[0], &chSplits[1]) chChunks[0] = chSplits[0] }",
   "return msmReduceChunkPointAffineDMA(p, c, chChunks[:])"]

/-- **Every `msmC<k>` of the current source is the template at `c = k`**, for exactly the
implemented widths. -/
theorem instances_are_template :
    Gen.msmInstances = C09.implementedCs.map fun c => (c, if c = 4 then templateC4 else template c) := by rfl


/-- the dispatch switch calls instance `k` for `c = k` -/
theorem dispatch_ok :
    Gen.msmDispatch = C09.implementedCs.map fun c =>
      (c, "msmC" ++ toString c ++ "(p, points, scalars, splitFirstChunk)") := by decide +kernel

end GoIpa.Tie.Msm
