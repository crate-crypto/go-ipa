/-
  Tie T1 for C05 / C09 / C19: the batch coordinate conversions of `banderwagon/precomp.go` —
  `batchProjToAffine` (the input conversion of every `MultiExp`) and
  `batchToExtendedPointNormalized` (the normalisation of every precomputed table window) —
  translated from the current source (struct slices desugared into coordinate slices,
  `parallel.Execute` sequentialised after an index check: `go/cmd/extract/batchconv.go`).

  Proved on the translated code, for every field and all coordinate lists of equal length: the
  result is, entry by entry, `(X·Z⁻¹, Y·Z⁻¹)` resp. `(X·Z⁻¹, Y·Z⁻¹, (X·Z⁻¹)·(Y·Z⁻¹))` — with
  `Z = 0` entries (which the code skips) giving `(0, 0[, 0])`, which is the same formula since
  `0⁻¹ = 0`.  The two Montgomery passes are literally those of `fr.BatchInvert`
  (`phase12_eq_batchInvert`), whose correctness on the translated code is `Tie.Loops.batchInvert_spec`.
-/
import GoIpa.Gen.BatchConv
import GoIpa.Tie.Loops
import GoIpa.Model.Curve
namespace GoIpa.Tie.BatchConv
open GoIpa GoIpa.Loop

variable {F : Type} [Field F] [DecidableEq F]

/-- the first pass: zero flags, prefix products in `resultX`, total product -/
def phase1 (n : Nat) (pointsZ : List F) : List Bool × List F × F :=
  Loop.forUp (0 : Int) ((n : Nat) : Int)
    (List.replicate (((n : Nat) : Int)).toNat false, List.replicate (((n : Nat) : Int)).toNat (0 : F), (1 : F))
    (fun (i : Int) (st : List Bool × List F × F) =>
      let (zeroes, resultX, accumulator) := st
      if ((Loop.get pointsZ i 0) = 0) then
        let zeroes : List Bool := Loop.set zeroes i (true)
        (zeroes, resultX, accumulator)
      else
        let resultX : List F := Loop.set resultX i (accumulator)
        let accumulator : F := accumulator * (Loop.get pointsZ i 0)
        (zeroes, resultX, accumulator))

/-- the second pass: the prefix products become the inverses -/
def phase2 (n : Nat) (pointsZ : List F) (zeroes : List Bool) (resultX : List F) (accumulator : F) : List F × F :=
  Loop.forDown ((((n : Nat) : Int)) - (1 : Int)) (0 : Int) (resultX, accumulator⁻¹) (fun (i : Int) (st : List F × F) =>
      let (resultX, accInverse) := st
      if ((Loop.get zeroes i false) = true) then
        (resultX, accInverse)
      else
        let resultX : List F := Loop.set resultX i ((Loop.get resultX i 0) * accInverse)
        let accInverse : F := accInverse * (Loop.get pointsZ i 0)
        (resultX, accInverse))

/-- the two Montgomery passes are `fr.BatchInvert` on the `Z` coordinates -/
theorem phase12_eq_batchInvert (pointsZ : List F) (hne : pointsZ.length ≠ 0) :
    (phase2 pointsZ.length pointsZ (phase1 pointsZ.length pointsZ).1 (phase1 pointsZ.length pointsZ).2.1
      (phase1 pointsZ.length pointsZ).2.2).1 = Gen.Loops.batchInvert pointsZ := by
  unfold Gen.Loops.batchInvert
  have : ¬ (((pointsZ.length : Nat) : Int) = (0 : Int)) := by omega
  rw [if_neg this]
  rfl

/-- the zero flags of the first pass: `zeroes[i] ⇔ Z_i = 0` -/
theorem phase1_flags (zs : List F) :
    (phase1 zs.length zs).1.length = zs.length ∧
      ∀ j, j < zs.length → (phase1 zs.length zs).1.getD j false = decide (zs.getD j 0 = 0) := by
  have h : phase1 zs.length zs = _ := (Loop.forUp_zero _ _ _).trans
    (Tie.Loops.batchInvert_fwd zs zs.length _ (by intros; simp only [get_nat, set_nat]))
  rw [h]
  exact ⟨by simp, fun j hj => getD_map_range _ _ _ _ hj⟩

/-- the conversion pass of `batchToExtendedPointNormalized` -/
def phase3N (n : Nat) (pointsX pointsY : List F) (zeroes : List Bool) (resultX : List F) : List F × List F × List F :=
  Loop.forUp (0 : Int) ((n : Nat) : Int)
    (resultX, List.replicate (((n : Nat) : Int)).toNat (0 : F), List.replicate (((n : Nat) : Int)).toNat (0 : F))
    (fun (i : Int) (st : List F × List F × List F) =>
      let (resultX, resultY, resultT) := st
      if ((Loop.get zeroes i false) = true) then
        (resultX, resultY, resultT)
      else
        let a : F := (Loop.get resultX i 0)
        let resultX : List F := Loop.set resultX i ((Loop.get pointsX i 0) * a)
        let resultY : List F := Loop.set resultY i ((Loop.get pointsY i 0) * a)
        let resultT : List F := Loop.set resultT i ((Loop.get resultX i 0) * (Loop.get resultY i 0))
        (resultX, resultY, resultT))

/-- the conversion pass of `batchProjToAffine` -/
def phase3A (n : Nat) (pointsX pointsY : List F) (zeroes : List Bool) (resultX : List F) : List F × List F :=
  Loop.forUp (0 : Int) ((n : Nat) : Int)
    (resultX, List.replicate (((n : Nat) : Int)).toNat (0 : F))
    (fun (i : Int) (st : List F × List F) =>
      let (resultX, resultY) := st
      if ((Loop.get zeroes i false) = true) then
        (resultX, resultY)
      else
        let a : F := (Loop.get resultX i 0)
        let resultX : List F := Loop.set resultX i ((Loop.get pointsX i 0) * a)
        let resultY : List F := Loop.set resultY i ((Loop.get pointsY i 0) * a)
        (resultX, resultY))

/-- the translated functions are the three passes, composed -/
theorem normalized_unfold (pX pY pZ : List F) :
    Gen.BatchConv.batchToExtendedPointNormalized pX pY pZ =
      phase3N pX.length pX pY (phase1 pX.length pZ).1
        (phase2 pX.length pZ (phase1 pX.length pZ).1 (phase1 pX.length pZ).2.1 (phase1 pX.length pZ).2.2).1 := rfl

theorem affine_unfold (pX pY pZ : List F) :
    Gen.BatchConv.batchProjToAffine pX pY pZ =
      phase3A pX.length pX pY (phase1 pX.length pZ).1
        (phase2 pX.length pZ (phase1 pX.length pZ).1 (phase1 pX.length pZ).2.1 (phase1 pX.length pZ).2.2).1 := rfl

attribute [-simp] List.getD_eq_getElem?_getD in
/-- the conversion pass, entry by entry -/
theorem phase3N_spec (n : Nat) (pX pY : List F) (zf : List Bool) (invs : List F) (hi : invs.length = n) :
    let r := phase3N n pX pY zf invs
    r.1.length = n ∧ r.2.1.length = n ∧ r.2.2.length = n ∧ ∀ j, j < n →
      r.1.getD j 0 = (if zf.getD j false = true then invs.getD j 0 else pX.getD j 0 * invs.getD j 0) ∧
      r.2.1.getD j 0 = (if zf.getD j false = true then 0 else pY.getD j 0 * invs.getD j 0) ∧
      r.2.2.getD j 0 = (if zf.getD j false = true then 0 else (pX.getD j 0 * invs.getD j 0) * (pY.getD j 0 * invs.getD j 0)) := by
  intro r
  have key := Loop.foldl_range_inv
    (fun k (st : List F × List F × List F) => st.1.length = n ∧ st.2.1.length = n ∧ st.2.2.length = n ∧
      ∀ j, j < n →
        st.1.getD j 0 = (if j < k then (if zf.getD j false = true then invs.getD j 0 else pX.getD j 0 * invs.getD j 0) else invs.getD j 0) ∧
        st.2.1.getD j 0 = (if j < k then (if zf.getD j false = true then 0 else pY.getD j 0 * invs.getD j 0) else 0) ∧
        st.2.2.getD j 0 = (if j < k then (if zf.getD j false = true then 0 else (pX.getD j 0 * invs.getD j 0) * (pY.getD j 0 * invs.getD j 0)) else 0))
    (fun (st : List F × List F × List F) (k : Nat) =>
      (fun (i : Int) (st : List F × List F × List F) =>
        let (resultX, resultY, resultT) := st
        if ((Loop.get zf i false) = true) then
          (resultX, resultY, resultT)
        else
          let a : F := (Loop.get resultX i 0)
          let resultX : List F := Loop.set resultX i ((Loop.get pX i 0) * a)
          let resultY : List F := Loop.set resultY i ((Loop.get pY i 0) * a)
          let resultT : List F := Loop.set resultT i ((Loop.get resultX i 0) * (Loop.get resultY i 0))
          (resultX, resultY, resultT)) (k : Int) st)
    (invs, List.replicate (((n : Nat) : Int)).toNat (0 : F), List.replicate (((n : Nat) : Int)).toNat (0 : F))
    n
    (by
      refine ⟨hi, by simp, by simp, ?_⟩
      intro j hj
      simp [Loop.getD_replicate, hj])
    (by
      rintro k ⟨a, b, c⟩ hk ⟨hla, hlb, hlc, hv⟩
      simp only at hla hlb hlc hv
      simp only [Loop.get_nat, Loop.set_nat]
      by_cases hz : zf.getD k false = true
      · simp only [hz, if_true]
        refine ⟨hla, hlb, hlc, ?_⟩
        intro j hj
        obtain ⟨h1, h2, h3⟩ := hv j hj
        by_cases hjk : j = k
        · subst hjk
          rw [h1, h2, h3]
          simp [hz]
        · have hiff : (j < k + 1) ↔ (j < k) := by omega
          simp only [hiff]
          exact ⟨h1, h2, h3⟩
      · simp only [hz, Bool.false_eq_true, ↓reduceIte]
        have hak : a.getD k 0 = invs.getD k 0 := by
          have := (hv k hk).1
          rw [if_neg (Nat.lt_irrefl k)] at this
          exact this
        refine ⟨by simp [hla], by simp [hlb], by simp [hlc], ?_⟩
        intro j hj
        obtain ⟨h1, h2, h3⟩ := hv j hj
        by_cases hjk : j = k
        · subst hjk
          rw [Loop.getD_set_self _ _ _ _ (by omega), Loop.getD_set_self _ _ _ _ (by omega),
            Loop.getD_set_self _ _ _ _ (by omega), hak]
          simp [hz]
        · have hkj : k ≠ j := fun h => hjk h.symm
          rw [Loop.getD_set_ne _ _ _ _ _ hkj, Loop.getD_set_ne _ _ _ _ _ hkj, Loop.getD_set_ne _ _ _ _ _ hkj]
          have hiff : (j < k + 1) ↔ (j < k) := by omega
          simp only [hiff]
          exact ⟨h1, h2, h3⟩)
  have hr : r = (List.range n).foldl _ _ := Loop.forUp_zero n _ _
  rw [hr]
  obtain ⟨h1, h2, h3, hv⟩ := key
  refine ⟨h1, h2, h3, ?_⟩
  intro j hj
  obtain ⟨e1, e2, e3⟩ := hv j hj
  rw [if_pos hj] at e1 e2 e3
  exact ⟨e1, e2, e3⟩

omit [DecidableEq F] in
attribute [-simp] List.getD_eq_getElem?_getD in
theorem phase3A_spec (n : Nat) (pX pY : List F) (zf : List Bool) (invs : List F) (hi : invs.length = n) :
    let r := phase3A n pX pY zf invs
    r.1.length = n ∧ r.2.length = n ∧ ∀ j, j < n →
      r.1.getD j 0 = (if zf.getD j false = true then invs.getD j 0 else pX.getD j 0 * invs.getD j 0) ∧
      r.2.getD j 0 = (if zf.getD j false = true then 0 else pY.getD j 0 * invs.getD j 0) := by
  intro r
  have key := Loop.foldl_range_inv
    (fun k (st : List F × List F) => st.1.length = n ∧ st.2.length = n ∧
      ∀ j, j < n →
        st.1.getD j 0 = (if j < k then (if zf.getD j false = true then invs.getD j 0 else pX.getD j 0 * invs.getD j 0) else invs.getD j 0) ∧
        st.2.getD j 0 = (if j < k then (if zf.getD j false = true then 0 else pY.getD j 0 * invs.getD j 0) else 0))
    (fun (st : List F × List F) (k : Nat) =>
      (fun (i : Int) (st : List F × List F) =>
        let (resultX, resultY) := st
        if ((Loop.get zf i false) = true) then
          (resultX, resultY)
        else
          let a : F := (Loop.get resultX i 0)
          let resultX : List F := Loop.set resultX i ((Loop.get pX i 0) * a)
          let resultY : List F := Loop.set resultY i ((Loop.get pY i 0) * a)
          (resultX, resultY)) (k : Int) st)
    (invs, List.replicate (((n : Nat) : Int)).toNat (0 : F))
    n
    (by
      refine ⟨hi, by simp, ?_⟩
      intro j hj
      simp [Loop.getD_replicate, hj])
    (by
      rintro k ⟨a, b⟩ hk ⟨hla, hlb, hv⟩
      simp only at hla hlb hv
      simp only [Loop.get_nat, Loop.set_nat]
      by_cases hz : zf.getD k false = true
      · simp only [hz, if_true]
        refine ⟨hla, hlb, ?_⟩
        intro j hj
        obtain ⟨h1, h2⟩ := hv j hj
        by_cases hjk : j = k
        · subst hjk
          rw [h1, h2]
          simp [hz]
        · have hiff : (j < k + 1) ↔ (j < k) := by omega
          simp only [hiff]
          exact ⟨h1, h2⟩
      · simp only [hz, Bool.false_eq_true, ↓reduceIte]
        have hak : a.getD k 0 = invs.getD k 0 := by
          have := (hv k hk).1
          rw [if_neg (Nat.lt_irrefl k)] at this
          exact this
        refine ⟨by simp [hla], by simp [hlb], ?_⟩
        intro j hj
        obtain ⟨h1, h2⟩ := hv j hj
        by_cases hjk : j = k
        · subst hjk
          rw [Loop.getD_set_self _ _ _ _ (by omega), Loop.getD_set_self _ _ _ _ (by omega), hak]
          simp [hz]
        · have hkj : k ≠ j := fun h => hjk h.symm
          rw [Loop.getD_set_ne _ _ _ _ _ hkj, Loop.getD_set_ne _ _ _ _ _ hkj]
          have hiff : (j < k + 1) ↔ (j < k) := by omega
          simp only [hiff]
          exact ⟨h1, h2⟩)
  have hr : r = (List.range n).foldl _ _ := Loop.forUp_zero n _ _
  rw [hr]
  obtain ⟨h1, h2, hv⟩ := key
  refine ⟨h1, h2, ?_⟩
  intro j hj
  obtain ⟨e1, e2⟩ := hv j hj
  rw [if_pos hj] at e1 e2
  exact ⟨e1, e2⟩

/-- inverses and flags delivered by the first two passes -/
theorem invs_flags (pZ : List F) (hne : pZ.length ≠ 0) :
    (phase2 pZ.length pZ (phase1 pZ.length pZ).1 (phase1 pZ.length pZ).2.1 (phase1 pZ.length pZ).2.2).1 = pZ.map (·⁻¹) := by
  rw [phase12_eq_batchInvert pZ hne, Tie.Loops.batchInvert_spec]

theorem getD_map_inv (pZ : List F) (j : Nat) : (pZ.map (·⁻¹)).getD j 0 = (pZ.getD j 0)⁻¹ := by
  simp only [List.getD_eq_getElem?_getD, List.getElem?_map]
  cases pZ[j]? <;> simp

/-- **`batchToExtendedPointNormalized`**, translated from the source: entry `j` of the result is
`(X_j·Z_j⁻¹, Y_j·Z_j⁻¹, (X_j·Z_j⁻¹)·(Y_j·Z_j⁻¹))` — the normalised extended coordinates of the same
point; an entry with `Z_j = 0` (skipped by the code) is `(0, 0, 0)`, which the formula also gives. -/
theorem normalized_spec (pX pY pZ : List F) (hZ : pZ.length = pX.length) :
    let r := Gen.BatchConv.batchToExtendedPointNormalized pX pY pZ
    r.1.length = pX.length ∧ r.2.1.length = pX.length ∧ r.2.2.length = pX.length ∧ ∀ j, j < pX.length →
      r.1.getD j 0 = pX.getD j 0 * (pZ.getD j 0)⁻¹ ∧
      r.2.1.getD j 0 = pY.getD j 0 * (pZ.getD j 0)⁻¹ ∧
      r.2.2.getD j 0 = (pX.getD j 0 * (pZ.getD j 0)⁻¹) * (pY.getD j 0 * (pZ.getD j 0)⁻¹) := by
  intro r
  have hr : r = _ := normalized_unfold pX pY pZ
  rw [hr, ← hZ]
  by_cases hne : pZ.length = 0
  · have : pZ = [] := List.eq_nil_of_length_eq_zero hne
    subst this
    exact ⟨rfl, rfl, rfl, fun j hj => absurd hj (Nat.not_lt_zero j)⟩
  · rw [invs_flags pZ hne]
    obtain ⟨_, hf⟩ := phase1_flags pZ
    obtain ⟨l1, l2, l3, hv⟩ := phase3N_spec pZ.length pX pY (phase1 pZ.length pZ).1 (pZ.map (·⁻¹)) (by simp)
    refine ⟨l1, l2, l3, ?_⟩
    intro j hj
    obtain ⟨e1, e2, e3⟩ := hv j hj
    rw [hf j hj, getD_map_inv] at e1 e2 e3
    by_cases hz : pZ.getD j 0 = 0
    · simp only [hz, decide_true, if_true, inv_zero, mul_zero] at e1 e2 e3 ⊢
      exact ⟨e1, e2, e3⟩
    · simp only [hz, decide_false, Bool.false_eq_true, if_false] at e1 e2 e3
      exact ⟨e1, e2, e3⟩

/-- **`batchProjToAffine`**, translated from the source: entry `j` is `(X_j·Z_j⁻¹, Y_j·Z_j⁻¹)`;
`Z_j = 0` gives `(0, 0)`. -/
theorem affine_spec (pX pY pZ : List F) (hZ : pZ.length = pX.length) :
    let r := Gen.BatchConv.batchProjToAffine pX pY pZ
    r.1.length = pX.length ∧ r.2.length = pX.length ∧ ∀ j, j < pX.length →
      r.1.getD j 0 = pX.getD j 0 * (pZ.getD j 0)⁻¹ ∧ r.2.getD j 0 = pY.getD j 0 * (pZ.getD j 0)⁻¹ := by
  intro r
  have hr : r = _ := affine_unfold pX pY pZ
  rw [hr, ← hZ]
  by_cases hne : pZ.length = 0
  · have : pZ = [] := List.eq_nil_of_length_eq_zero hne
    subst this
    exact ⟨rfl, rfl, fun j hj => absurd hj (Nat.not_lt_zero j)⟩
  · rw [invs_flags pZ hne]
    obtain ⟨_, hf⟩ := phase1_flags pZ
    obtain ⟨l1, l2, hv⟩ := phase3A_spec pZ.length pX pY (phase1 pZ.length pZ).1 (pZ.map (·⁻¹)) (by simp)
    refine ⟨l1, l2, ?_⟩
    intro j hj
    obtain ⟨e1, e2⟩ := hv j hj
    rw [hf j hj, getD_map_inv] at e1 e2
    by_cases hz : pZ.getD j 0 = 0
    · simp only [hz, decide_true, if_true, inv_zero, mul_zero] at e1 e2 ⊢
      exact ⟨e1, e2⟩
    · simp only [hz, decide_false, Bool.false_eq_true, if_false] at e1 e2
      exact ⟨e1, e2⟩

/-! ### on points: the results are the normalised representatives of the same points -/

omit [DecidableEq F] in
theorem getD_map' {α : Type} (l : List α) (f : α → F) (d : α) (j : Nat) (hj : j < l.length) :
    (l.map f).getD j 0 = f (l.getD j d) := by
  simp [List.getD_eq_getElem?_getD, List.getElem?_map, List.getElem?_eq_getElem hj]

/-- **`batchToExtendedPointNormalized` on extended points**: entry `j` of the result is
`ExtN.ofAff` of the affine point of `points[j]` — the representation `C08.rep_addN`
(`ExtendedAddNormalized` adds the represented group element) is stated for; so the parameter
`normalize` of `Tie.PrecompFull.newPrecompPoint_eq` is the identity on group elements. -/
theorem normalized_points (pts : List (Ext F)) :
    let r := Gen.BatchConv.batchToExtendedPointNormalized (pts.map (·.X)) (pts.map (·.Y)) (pts.map (·.Z))
    ∀ j, j < pts.length →
      (⟨r.1.getD j 0, r.2.1.getD j 0, r.2.2.getD j 0⟩ : ExtN F) = ExtN.ofAff ((pts.getD j ⟨0, 0, 0, 0⟩).toProj.toAff) := by
  intro r j hj
  obtain ⟨_, _, _, hv⟩ := normalized_spec (pts.map (·.X)) (pts.map (·.Y)) (pts.map (·.Z)) (by simp)
  obtain ⟨e1, e2, e3⟩ := hv j (by simpa using hj)
  show (⟨r.1.getD j 0, r.2.1.getD j 0, r.2.2.getD j 0⟩ : ExtN F) = _
  rw [e1, e2, e3, getD_map' pts (·.X) ⟨0, 0, 0, 0⟩ j hj, getD_map' pts (·.Y) ⟨0, 0, 0, 0⟩ j hj,
    getD_map' pts (·.Z) ⟨0, 0, 0, 0⟩ j hj]
  rfl

/-- **`batchProjToAffine` on projective points**: entry `j` is the affine point of `points[j]` -/
theorem affine_points (pts : List (Proj F)) :
    let r := Gen.BatchConv.batchProjToAffine (pts.map (·.X)) (pts.map (·.Y)) (pts.map (·.Z))
    ∀ j, j < pts.length →
      (⟨r.1.getD j 0, r.2.getD j 0⟩ : Aff F) = (pts.getD j ⟨0, 0, 0⟩).toAff := by
  intro r j hj
  obtain ⟨_, _, hv⟩ := affine_spec (pts.map (·.X)) (pts.map (·.Y)) (pts.map (·.Z)) (by simp)
  obtain ⟨e1, e2⟩ := hv j (by simpa using hj)
  show (⟨r.1.getD j 0, r.2.getD j 0⟩ : Aff F) = _
  rw [e1, e2, getD_map' pts (·.X) ⟨0, 0, 0⟩ j hj, getD_map' pts (·.Y) ⟨0, 0, 0⟩ j hj,
    getD_map' pts (·.Z) ⟨0, 0, 0⟩ j hj]
  rfl

end GoIpa.Tie.BatchConv
