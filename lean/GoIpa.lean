-- root: every module (regenerated)
import GoIpa.Gen.BatchConv
import GoIpa.Gen.CRS
import GoIpa.Gen.Consts
import GoIpa.Gen.Elements
import GoIpa.Gen.Execute
import GoIpa.Gen.Formulas
import GoIpa.Gen.FrCodec
import GoIpa.Gen.FrConsts
import GoIpa.Gen.FrInverse
import GoIpa.Gen.FrLimbs
import GoIpa.Gen.FrMisc
import GoIpa.Gen.FrMulConst
import GoIpa.Gen.FrSqrtGo
import GoIpa.Gen.Loops
import GoIpa.Gen.MsmChunk
import GoIpa.Gen.MultiExpDriver
import GoIpa.Gen.PrecompFull
import GoIpa.Gen.Recode
import GoIpa.Gen.Schedules
import GoIpa.Gen.Serde
import GoIpa.Gen.SqrtFp
import GoIpa.Gen.Transcript
import GoIpa.Lemmas.BatchInvert
import GoIpa.Lemmas.BitField
import GoIpa.Lemmas.Cios
import GoIpa.Lemmas.DivideOnDomain
import GoIpa.Lemmas.EdwardsAssoc
import GoIpa.Lemmas.FoldingScalars
import GoIpa.Lemmas.Grouping
import GoIpa.Lemmas.InverseProof
import GoIpa.Lemmas.IpaAlgebra
import GoIpa.Lemmas.Limbs4
import GoIpa.Lemmas.LoopLemmas
import GoIpa.Lemmas.MpAlgebra
import GoIpa.Lemmas.MpComplete
import GoIpa.Lemmas.MpVerifier
import GoIpa.Lemmas.PipBits
import GoIpa.Lemmas.Pippenger
import GoIpa.Lemmas.Primes
import GoIpa.Lemmas.Simulation
import GoIpa.Lemmas.SqrtPrecompProof
import GoIpa.Lemmas.SqrtProof
import GoIpa.Lemmas.Vec
import GoIpa.Lemmas.ZpEuler
import GoIpa.Lemmas.ZpField
import GoIpa.Model.Bary
import GoIpa.Model.Basic
import GoIpa.Model.Batch
import GoIpa.Model.Big
import GoIpa.Model.Codec
import GoIpa.Model.Config
import GoIpa.Model.Curve
import GoIpa.Model.ElemEnv
import GoIpa.Model.Element
import GoIpa.Model.Field
import GoIpa.Model.FrInverse
import GoIpa.Model.FrLimbs
import GoIpa.Model.FrSqrt
import GoIpa.Model.Ipa
import GoIpa.Model.Loop
import GoIpa.Model.Multiproof
import GoIpa.Model.Ops
import GoIpa.Model.Pippenger
import GoIpa.Model.Precomp
import GoIpa.Model.Ranges
import GoIpa.Model.Serde
import GoIpa.Model.Sha256
import GoIpa.Model.Sqrt
import GoIpa.Model.Transcript
import GoIpa.Props.C01
import GoIpa.Props.C01Complete
import GoIpa.Props.C01Translated
import GoIpa.Props.C02
import GoIpa.Props.C02Mp
import GoIpa.Props.C03
import GoIpa.Props.C04
import GoIpa.Props.C04Value
import GoIpa.Props.C05
import GoIpa.Props.C05Translated
import GoIpa.Props.C06
import GoIpa.Props.C06Exact
import GoIpa.Props.C07
import GoIpa.Props.C07Concrete
import GoIpa.Props.C08
import GoIpa.Props.C08Concrete
import GoIpa.Props.C08Group
import GoIpa.Props.C08Order
import GoIpa.Props.C09
import GoIpa.Props.C09Msm
import GoIpa.Props.C10
import GoIpa.Props.C11
import GoIpa.Props.C12
import GoIpa.Props.C13
import GoIpa.Props.C14
import GoIpa.Props.C15
import GoIpa.Props.C16
import GoIpa.Props.C17
import GoIpa.Props.C18
import GoIpa.Props.C19
import GoIpa.Props.C20
import GoIpa.Props.Concrete
import GoIpa.Props.ConcreteExec
import GoIpa.Tie.BVector
import GoIpa.Tie.BatchConv
import GoIpa.Tie.BatchNormalize
import GoIpa.Tie.CRS
import GoIpa.Tie.Consts
import GoIpa.Tie.Elements
import GoIpa.Tie.Execute
import GoIpa.Tie.Formulas
import GoIpa.Tie.FrCodec
import GoIpa.Tie.FrCodecEnc
import GoIpa.Tie.FrConsts
import GoIpa.Tie.FrInverse
import GoIpa.Tie.FrInverseValue
import GoIpa.Tie.FrLimbs
import GoIpa.Tie.FrMisc
import GoIpa.Tie.FrMiscModel
import GoIpa.Tie.FrMulConst
import GoIpa.Tie.FrSqrtGo
import GoIpa.Tie.FrSqrtValue
import GoIpa.Tie.Grouping
import GoIpa.Tie.Loops
import GoIpa.Tie.Msm
import GoIpa.Tie.MsmChunk
import GoIpa.Tie.MultiExpDriver
import GoIpa.Tie.Precomp
import GoIpa.Tie.PrecompFull
import GoIpa.Tie.Protocol
import GoIpa.Tie.ProtocolMp
import GoIpa.Tie.Recode
import GoIpa.Tie.Schedules
import GoIpa.Tie.Selector
import GoIpa.Tie.Serde
import GoIpa.Tie.SqrtChain
import GoIpa.Tie.SqrtFp
import GoIpa.Tie.SqrtTables
import GoIpa.Tie.Transcript
